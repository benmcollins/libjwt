import Jwt.Lemmas.Policy
import Jwt.Lemmas.Decisions
/-!
# C02 — algorithm pinning: a token cannot choose its own algorithm or key family (checker side)

All statements are for every `Env` (every crypto primitive, every JSON codec, either provider),
every checker state, every callback (an arbitrary function) and every token string.
The builder-side clauses are in `Jwt/Props/C03.lean` / `C10.lean` (they need the builder model).
-/
namespace Jwt.Props.C02
open Jwt

/-- **The documented setkey table** (checker): exactly these (alg, key) pairs are admitted. -/
theorem C02_table_checker (alg : Alg) (key : Option KeyItem) :
    setkeyCheck .checker alg key = none ↔
      (key = none ∧ alg = .none) ∨
      (∃ k, key = some k ∧ ((k.alg = .none ∧ alg ≠ .none) ∨ (k.alg ≠ .none ∧ (alg = .none ∨ alg = k.alg)))) := by
  cases key with
  | none => simp [setkeyCheck, setkeyCheck.setkeyTable]
  | some k =>
    by_cases h1 : k.alg = .none <;> by_cases h2 : alg = .none <;> simp [setkeyCheck, setkeyCheck.setkeyTable, h1, h2]

/-- … and the builder admits the same pairs, for private keys only. -/
theorem C02_table_builder (alg : Alg) (key : Option KeyItem) :
    setkeyCheck .builder alg key = none ↔
      setkeyCheck .checker alg key = none ∧ (∀ k, key = some k → k.isPrivate = true) := by
  cases key with
  | none => simp [setkeyCheck]
  | some k => by_cases hp : k.isPrivate = true <;> simp [setkeyCheck, hp]

/-- a key admitted without an explicit algorithm has one of its own -/
theorem setkeyCheck_none_alg {side : Side} {k : KeyItem} (h : setkeyCheck side .none (some k) = none) :
    k.alg ≠ .none := by
  have hc : setkeyCheck .checker .none (some k) = none := by
    cases side with
    | checker => exact h
    | builder => exact ((C02_table_builder _ _).1 h).1
  rcases (C02_table_checker _ _).1 hc with ⟨hn, _⟩ | ⟨_, ⟨⟩, h1 | h2⟩
  · cases hn
  · exact absurd rfl h1.2
  · exact h2.1

/-- **A key is never used without a pinned algorithm**: an admitted (alg, key) pair with a key has
a pinned algorithm other than `none`. -/
theorem C02_key_has_pin (side : Side) (cfg : Config) (k : KeyItem) (hk : cfg.key = some k)
    (h : setkeyCheck side cfg.alg cfg.key = none) : pinned cfg ≠ .none := by
  unfold pinned
  by_cases ha : cfg.alg = .none
  · rw [ha, hk] at h
    simpa [ha, hk] using setkeyCheck_none_alg h
  · simp [ha]

/-- **Pinning.** If `jwt_checker_verify` returns 0 and the configuration in force after the callback
holds a key, the algorithm named in the token header *is* the pinned algorithm (explicit one, else
the key's own), it is not `none`, and the third segment is not empty — whatever the signature. -/
theorem C02_pinned (env : Env) (ck : Checker) (tok : Option Bytes) (h : (verify env ck tok).2 = 0) :
    ∃ t p, tok = some t ∧ parse env.jc t = .ok p ∧
      ∀ k, (afterCb ck.cfg p).2.key = some k →
        p.alg = pinned (afterCb ck.cfg p).2 ∧ p.alg ≠ .none ∧ p.sig ≠ [] := by
  obtain ⟨t, p, rfl, hp, acc⟩ := (verify_ok_iff env ck tok).1 h
  exact ⟨t, p, rfl, hp, fun k hk =>
    ⟨(acc.key hk).2.2.1, (acc.key hk).2.1, fun he => (acc.key hk).1 (by rw [he]; rfl)⟩⟩

/-- the same without a callback: the pin is the checker's own configuration -/
theorem C02_pinned_nocb (env : Env) (ck : Checker) (tok : Option Bytes) (hcb : ck.cfg.cb = none)
    (k : KeyItem) (hk : ck.cfg.key = some k) (h : (verify env ck tok).2 = 0) :
    ∃ t p, tok = some t ∧ parse env.jc t = .ok p ∧ p.alg = pinned { key := ck.cfg.key, alg := ck.cfg.alg } := by
  obtain ⟨t, p, ht, hp, hall⟩ := C02_pinned env ck tok h
  have : afterCb ck.cfg p = (0, { key := ck.cfg.key, alg := ck.cfg.alg }) := by simp [afterCb, hcb]
  rw [this] at hall
  exact ⟨t, p, ht, hp, (hall k hk).1⟩

/-- **Exact header parsing.** The token's algorithm is `a` only if its header has a *string* member
`alg` that is byte-for-byte `a`'s registered name (so `hs256`, `None`, `HS256 ` … name nothing). -/
theorem C02_exact (jc : JsonCodec) (tok : Bytes) (p : Parsed) (h : parse jc tok = .ok p) :
    ∃ s, p.headers.objGet N.alg = some (.str s) ∧ algStr p.alg = some s ∧ p.alg ≠ .inval :=
  (parseHeadAlg_ok _ _).1 ((parse_ok jc tok p).1 h).2.2.2.2.2

/-- **Family.** Every call the verification makes into a cryptographic primitive is made with the
key in force and the token's algorithm, and that key belongs to the algorithm's family with the
required size: HS* ↔ oct, RS*/PS* ↔ RSA, ES* ↔ EC of matching size, EdDSA ↔ OKP. -/
theorem C02_family (env : Env) (c : CheckerCfg) (tok : Bytes) :
    ∀ call ∈ (verifyCore env c tok).2, ∃ p k, parse env.jc tok = .ok p ∧ (afterCb c p).2.key = some k ∧
      (call = .hmac p.alg k ∨ call = .pkVerify p.alg k) ∧ k.kty = p.alg.family ∧ strengthOk p.alg k := by
  intro call hc
  obtain ⟨p, k, hp, hk, hcall, hs⟩ := verifyCore_trace env c tok call hc
  exact ⟨p, k, hp, hk, hcall, (strengthOk_family _ _ hs).1, hs⟩

/-! ### non-vacuity -/

def rsaPub : KeyItem := { id := 1, kty := .rsa, alg := .rs256, bits := 2048, isPrivate := false, oct := [] }
-- the pinned-RS256 configuration of the original defect is admitted by setkey …
example : setkeyCheck .checker .rs256 (some rsaPub) = none := by decide
-- … and `configPost` now refuses an HS256 token against it (it returned `none` before the fix)
example : configPost { key := some rsaPub, alg := .rs256 } .hs256 43 = some .cfgAlgMismatch := by decide
example : configPost { key := some rsaPub, alg := .rs256 } .rs256 342 = none := by decide
example : pinned { key := some rsaPub, alg := .none } = .rs256 := by decide
-- the family rule is satisfiable and refutable
example : strengthOk .rs256 rsaPub ∧ ¬ strengthOk .hs256 rsaPub := by simp [strengthOk, rsaPub]

/-- **The admission table is the source's** (`__setkey_check` of `jwt-common.c`, translated on every run,
once as compiled for builders and once for checkers): the model's `setkeyCheck` — which `C02_table_checker`,
`C02_table_builder`, `C02_key_has_pin` speak about — admits a pair (alg, key) exactly when the translated
function returns 0, whatever lies behind a NULL key pointer. -/
theorem C02_table_is_source (side : Side) (alg : Alg) (key : Option KeyItem) (ka : Alg) (kp : Bool) :
    setkeyCheck side alg key = none ↔ (setkeyCheckGen side alg key ka kp).1 = 0 :=
  (setkeyCheck_generated side alg key ka kp).1

/-- **The pinning gate is the source's** (`__verify_config_post` of `jwt-verify.c`, translated on every run):
once the claims have passed, the model's `configPost` lets a token through exactly when the translated
function returns 0 — for every configuration, header algorithm and signature length. -/
theorem C02_gate_is_source (cfg : Config) (jalg : Alg) (n : Nat) (ka : Alg) :
    configPost cfg jalg n = none ↔
      (Generated.verifyConfigPost false cfg.key.isNone n cfg.alg (cfg.key.elim ka (·.alg)) jalg).1 = 0 :=
  (configPost_generated cfg jalg n ka).1

end Jwt.Props.C02
