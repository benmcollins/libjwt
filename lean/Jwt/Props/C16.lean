import Jwt.Jwk
import Jwt.Props.C07
/-!
# C16 — a keyring is an ordered list of keys under every sequence of operations

Abstract level: every `jwks_*` call as an operation on `List Item` (this file). The pointer level
(`ll.h`: `list_add_tail`, `list_del`, `list_for_each_entry(_safe)`) is tied by the exhaustive
operation-sequence suite under ASan/LSan (use-after-free and leaks are what ASan/LSan report);
see DESIGN §8 C16 for the status of the heap-level refinement.
-/
namespace Jwt.Props.C16
open Jwt

/-- loads append, in document order -/
theorem C16_load (o : KeyOracle) (s : KeySet) (doc : Option Json) :
    ∃ new, (jwksProcess o s doc).items = s.items ++ new := by
  unfold jwksProcess
  cases doc with
  | none => exact ⟨[], by simp⟩
  | some j =>
    simp only
    split
    · exact ⟨_, rfl⟩
    · exact ⟨_, rfl⟩
    · exact ⟨[], by simp⟩

theorem C16_get_count (s : KeySet) (i : Nat) :
    s.get i = s.items[i]? ∧ s.count = s.items.length ∧ (s.get i = none ↔ s.count ≤ i) := by
  refine ⟨rfl, rfl, ?_⟩
  simp [KeySet.get, KeySet.count]

/-- `jwks_find_bykid` returns the first item whose kid equals the argument exactly -/
theorem C16_find (s : KeySet) (kid : Bytes) :
    (∀ i, s.findByKid kid = some i →
      (∃ it, s.items[i]? = some it ∧ it.kid = some kid) ∧ ∀ j, j < i → ∀ it, s.items[j]? = some it → it.kid ≠ some kid) ∧
    (s.findByKid kid = none → ∀ it ∈ s.items, it.kid ≠ some kid) := by
  unfold KeySet.findByKid
  constructor
  · intro i hi
    rw [List.findIdx?_eq_some_iff_getElem] at hi
    obtain ⟨hlt, hp, hbefore⟩ := hi
    refine ⟨⟨s.items[i], by simp [hlt], by simpa using hp⟩, ?_⟩
    intro j hj it hit
    have hjl : j < s.items.length := Nat.lt_trans hj hlt
    have := hbefore j hj
    rw [List.getElem?_eq_getElem hjl] at hit
    cases hit
    simpa using this
  · intro h it hit
    rw [List.findIdx?_eq_none_iff] at h
    simpa using h it hit

/-- `jwks_item_free(i)` removes exactly the indexed item and returns 1, or returns 0 and changes nothing -/
theorem C16_free (s : KeySet) (i : Nat) :
    (i < s.count → (s.free i).2 = 1 ∧ (s.free i).1.items = s.items.eraseIdx i ∧ (s.free i).1.count = s.count - 1) ∧
    (s.count ≤ i → s.free i = (s, 0)) := by
  unfold KeySet.free KeySet.count
  constructor
  · intro h; simp [h, List.length_eraseIdx]
  · intro h
    have : ¬ i < s.items.length := by omega
    simp [this]

/-- `jwks_item_free_bad` removes exactly the errored items, keeps the order of the rest, returns their number -/
theorem C16_free_bad (s : KeySet) :
    (s.freeBad).1.items = s.items.filter (!·.error) ∧ (s.freeBad).2 = (s.items.filter (·.error)).length ∧
    (s.freeBad).1.count + (s.freeBad).2 = s.count ∧ (∀ it ∈ (s.freeBad).1.items, it.error = false) := by
  unfold KeySet.freeBad KeySet.count
  refine ⟨rfl, rfl, ?_, ?_⟩
  · simp [List.length_eq_countP_add_countP (·.error) (l := s.items), List.countP_eq_length_filter, Nat.add_comm]
  · intro it hit
    simp only [List.mem_filter] at hit
    simpa using hit.2

theorem C16_free_all (s : KeySet) : (s.freeAll).2 = s.count ∧ (s.freeAll).1.items = [] := ⟨rfl, rfl⟩

/-- `jwks_error_any` counts the set error plus the errored items -/
theorem C16_error_any (s : KeySet) :
    s.errorAny = (if s.error then 1 else 0) + (s.items.filter (·.error)).length := rfl

/-- the operations of the property -/
inductive Op where
  | load (o : KeyOracle) (doc : Option Json)
  | free (i : Nat)
  | freeBad
  | freeAll
  | errorClear

def apply (s : KeySet) : Op → KeySet
  | .load o doc => jwksProcess o s doc
  | .free i => (s.free i).1
  | .freeBad => s.freeBad.1
  | .freeAll => s.freeAll.1
  | .errorClear => s.errorClear

/-- **Histories**: across any sequence of operations every item of the keyring is good (C07) —
the list never holds anything but fully formed items — and removals only ever remove. -/
theorem C16_history (s : KeySet) (ops : List Op) (h : ∀ it ∈ s.items, Props.C07.Good it) :
    ∀ it ∈ (ops.foldl apply s).items, Props.C07.Good it := by
  induction ops generalizing s with
  | nil => exact h
  | cons op ops ih =>
    simp only [List.foldl_cons]
    apply ih
    cases op with
    | load o doc => exact Props.C07.C07_all_items o s doc h
    | free i =>
      intro it hit
      simp only [apply, KeySet.free] at hit
      split at hit
      · exact h it (List.mem_of_mem_eraseIdx hit)
      · exact h it hit
    | freeBad => exact fun it hit => h it (List.mem_filter.1 hit).1
    | freeAll => intro it hit; simp [apply, KeySet.freeAll] at hit
    | errorClear => exact h

/-! ### non-vacuity -/
example : ({ items := [{ kty := 4, kid := some [97] }, { kty := 4, kid := some [98], error := true, msg := true }, { kty := 4, kid := some [97] }] } : KeySet).findByKid [97] = some 0 := by decide
example : (({ items := [{ kty := 4 }, { kty := 4, error := true, msg := true }] } : KeySet).freeBad).2 = 1 := by decide
example : (({ items := [{ kty := 4 }] } : KeySet).free 1).2 = 0 := by decide

end Jwt.Props.C16
