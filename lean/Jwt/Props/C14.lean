import Jwt.Lemmas.Verify
import Jwt.Lemmas.Decisions
import Jwt.Checker
import Jwt.SetGet
import Jwt.Lemmas.SetGet
import Jwt.Lemmas.Builder
import Jwt.Lemmas.Pipeline
import Jwt.Lemmas.PipelineBuilder
import Jwt.Lemmas.PipelineClosed
/-!
# C14 — error reporting contract: failure is always flagged and explained

Checker part and value part here; `jwt_builder_generate` and keyring items are in
`Jwt/Props/C14b.lean` over the builder and JWK models.
-/
namespace Jwt.Props.C14
open Jwt

/-- **`jwt_checker_verify`**: it returns non-zero exactly when the error flag is set afterwards;
a set flag comes with a non-empty message; after a success the flag is clear and the message
empty — from *every* prior state (clean, flag set with a stale message, flag cleared), for every
token and callback. -/
theorem C14_verify (env : Env) (ck : Checker) (tok : Option Bytes) :
    let r := verify env ck tok
    (r.2 ≠ 0 ↔ r.1.error = true) ∧ (r.1.error = true → r.1.msg.isSome = true) ∧
    (r.2 = 0 → r.1.error = false ∧ r.1.msg = none) := by
  rw [verify_eq]
  cases verifyExit env ck.cfg tok <;> cases h : ck.msg <;> simp [Checker.finish, Checker.writeError, h]

/-- `jwt_checker_setkey`: a refusal sets the flag with a message, an admission changes neither -/
theorem C14_setkey (ck : Checker) (alg : Alg) (key : Option KeyItem) :
    let r := ck.setkey alg key
    (r.2 ≠ 0 → r.1.error = true ∧ r.1.msg.isSome = true) ∧
    (r.2 = 0 → r.1.error = ck.error ∧ r.1.msg = ck.msg) := by
  unfold Checker.setkey Checker.writeError
  cases setkeyCheck .checker alg key with
  | none => simp
  | some e => cases ck.msg <;> simp

/-- **Header/claim calls return the code they store**: `setter` computes one code, which the C
function both stores in `value->error` and returns (`return jval->error = …` / `return jval->error`).
In the model the two are the same component by construction; what can be stated is that the code
is `none` exactly when the object changed as requested or was already as requested, and that an
error leaves a scalar set without effect unless it is the documented "replace then invalid" case. -/
theorem C14_setter_exist (ls : Bytes → Option Json) (which : Json) (r : SetReq) (n : Bytes) (hn : nameOk r.name = some n)
    (hex : (which.objGet n).isSome = true) (hr : r.replace = false) (ht : r.type ≠ .json) :
    setter ls which r = (which, .exist) ∨ (r.type = .str ∧ r.strVal = none ∧ setter ls which r = (which, .invalid)) := by
  by_cases h : r.type = .str ∧ r.strVal = none
  · exact .inr ⟨h.1, h.2, by simp [setter, h.1, h.2]⟩
  · left
    rw [Props.C15.setter_named ls which hn (fun ht => by cases hs : r.strVal <;> simp_all) (fun hj => absurd hj ht), hr,
      Props.C15.checkedSet_exist hex]

/-- **`jwt_builder_generate`** returns NULL exactly when the builder's error flag is set afterwards,
and then with a non-empty message; a returned token leaves flag and message clear — from every
prior state and for every callback. -/
theorem C14_generate (env : Env) (b : Builder) :
    let r := generate env b
    (r.2 = none ↔ r.1.error = true) ∧ (r.1.error = true → r.1.msg.isSome = true) ∧
    (r.2.isSome = true → r.1.error = false ∧ r.1.msg = none) := by
  rw [generate_eq]
  cases hg : generateCore env b.cfg with
  | mk ex rest =>
    obtain ⟨t, tr⟩ := rest
    cases ex with
    | direct e => cases h : b.msg <;> simp [Builder.finish, Builder.writeError, h]
    | viaJwt e => simp [Builder.finish]
    | ok =>
      -- an `ok` exit always carries a token
      obtain ⟨_, tok, _, _, _, _, rfl⟩ := generateCore_ok env b.cfg t tr hg
      simp [Builder.finish]

/-! ### non-vacuity: the three prior states of the statement exist -/
example : (Checker.new).error = false ∧ (Checker.new).msg = none := by decide
example : ({ Checker.new with error := true, msg := some .claims } : Checker).msg.isSome = true := rfl
example : (({ Checker.new with error := true, msg := some .claims } : Checker).errorClear).error = false := rfl

/-- **Every refusal of the two admission functions comes with a message, in the source** (translated
`__setkey_check`, both compilations, and `__verify_config_post`): the function has called
`jwt_write_error` exactly on the paths on which it returns 1 (a non-NULL object given), and it returns
nothing but 0 or 1. -/
theorem C14_admission_messages (side : Side) (alg : Alg) (key : Option KeyItem) (ka : Alg) (kp : Bool)
    (cfg : Config) (jalg : Alg) (n : Nat) (claimsFail : Bool) :
    ((setkeyCheckGen side alg key ka kp).2 = true ↔ (setkeyCheckGen side alg key ka kp).1 = 1) ∧
    ((setkeyCheckGen side alg key ka kp).1 = 0 ∨ (setkeyCheckGen side alg key ka kp).1 = 1) ∧
    (let r := Generated.verifyConfigPost claimsFail cfg.key.isNone n cfg.alg (cfg.key.elim ka (·.alg)) jalg
     (r.2 = true ↔ r.1 = 1) ∧ (r.1 = 0 ∨ r.1 = 1)) := by
  refine ⟨(setkeyCheck_generated side alg key ka kp).2.2, (setkeyCheck_generated side alg key ka kp).2.1, ?_⟩
  cases claimsFail
  · exact ⟨(configPost_generated cfg jalg n ka).2.2, (configPost_generated cfg jalg n ka).2.1⟩
  · simp [configPost_claims_first]

/-- **`jwt_checker_verify`'s exits are the source's.** For every environment, configuration and non-empty token the
model returns what the decision skeleton *generated* from `jwt-common.c` returns, and the exits on which the source
copies the per-call object's error state to the checker are exactly the ones the model does not mark `direct`
(on those the source, or `__setkey_check`, writes the checker's message itself). -/
theorem C14_verify_exits_are_source (env : Env) (ck : Checker) (t : Bytes) (ht : t ≠ []) (x : Bool) :
    (verify env ck (some t)).2 = (checkerVerifyGen env ck.cfg t x).1 ∧
    ((checkerVerifyGen env ck.cfg t x).2.2 = true ↔ ∀ e, (verifyCore env ck.cfg t).1 ≠ .direct e) :=
  checkerVerify_generated env ck t ht x

/-- in the generated code every exit but the last returns 1, and the last returns the checker's flag; the early exits
for a missing token and for a failing callback have written a message to the checker -/
theorem C14_verify_returns_are_source (a b c d e f g h i : Bool) (n : Nat) :
    ((Jwt.Generated.Pipeline.checkerVerify a b c d e f g h i n).1 = 1 ∨ (Jwt.Generated.Pipeline.checkerVerify a b c d e f g h i n).1 = n) ∧
    (Jwt.Generated.Pipeline.checkerVerify false true c d e f g h i n = (1, true, false)) ∧
    (Jwt.Generated.Pipeline.checkerVerify false false true d e f g h i n = (1, true, false)) := by
  refine ⟨checkerVerify_returns a b c d e f g h i n, ?_, ?_⟩ <;> simp [Jwt.Generated.Pipeline.checkerVerify]

/-- **`jwt_builder_generate`'s exits are the source's**: the per-token object's error state is copied to the builder
on exactly the exits the model does not mark `direct`; on the others (allocation, callback, admission) the generated
code has written the builder's message itself. -/
theorem C14_generate_exits_are_source (env : Env) (b : Builder) :
    ((builderGenerateGen env b.cfg).2.2 = true ↔ ∀ e, (generateCore env b.cfg).1 ≠ .direct e) :=
  (builderGenerate_generated env b).2

/-- **No silent failure, in the code as written.** Over every combination of the tests of the *generated*
`jwt_checker_verify` and `jwt_builder_generate`: verify returns 0 only on its last exit with the
checker's flag at 0, generate returns a token only when every step before `jwt_encode_str` succeeded; and every failing
exit (other than a NULL object, or no memory for the per-call object in generate) has written a message to the object,
copied the per-call object's error state to it, or -- verify's admission exit -- left the message to `__setkey_check`
(`C14_admission_messages` shows that one writes it). -/
theorem C14_no_silent_failure_is_source :
    (∀ a b c d e f g h i : Bool,
      let reach := !a && !b && !c && !d && !e && (f || (!g && h)) && !i
      (Jwt.Generated.Pipeline.checkerVerify a b c d e f g h i 0).1 = (if reach then 0 else 1) ∧
      ((!a && !reach) = true → (Jwt.Generated.Pipeline.checkerVerify a b c d e f g h i 0).2.1 = true ∨
        (Jwt.Generated.Pipeline.checkerVerify a b c d e f g h i 0).2.2 = true ∨ i = true)) ∧
    (∀ a b c d iat is_ nbf ns exp es cbn cbr sk hs : Bool,
      let ok := !a && !b && !c && !d && (!iat || is_) && (!nbf || ns) && (!exp || es) && !(!cbn && cbr) && !sk && !hs
      (Jwt.Generated.Pipeline.builderGenerate a b c d iat is_ nbf ns exp es cbn cbr sk hs 1).1 = (if ok then 1 else 0) ∧
      ((!a && !b && !ok) = true → (Jwt.Generated.Pipeline.builderGenerate a b c d iat is_ nbf ns exp es cbn cbr sk hs 1).2.1 = true ∨
        (Jwt.Generated.Pipeline.builderGenerate a b c d iat is_ nbf ns exp es cbn cbr sk hs 1).2.2 = true)) :=
  ⟨fun a b c d e f g h i => Jwt.Generated.Pipeline.checkerVerify_closed a b c d e f g h i 0,
   fun a b c d iat is_ nbf ns exp es cbn cbr sk hs => Jwt.Generated.Pipeline.builderGenerate_closed a b c d iat is_ nbf ns exp es cbn cbr sk hs 1⟩

end Jwt.Props.C14
