import Jwt.Jwk
import Jwt.Lemmas.Json
import Jwt.Lemmas.PipelineJwk
/-!
# C07 — arbitrary JWK/JWKS input: a well-formed keyring comes back

The model functions (`jwksProcess`, `processOne`, …) are total and structurally recursive, and every
`json_string_value` is an `Option` that is matched on before use — the NULL discipline of the fixed
C code. Memory safety / UB / leaks of the compiled code on these inputs are witnessed by the
ASan/UBSan/LSan runs of suite `jwk-shapes` (member × JSON type, mutated text, every entry point).
What OpenSSL makes of well-typed key material is the parameter `KeyOracle` (arbitrary in all
theorems).
-/
namespace Jwt.Props.C07
open Jwt

/-- **Shape.** Text that is not JSON: the set carries an error (with message) and gains no items.
Otherwise: no `keys` member — exactly one item; `keys` an array of `n` elements — exactly `n` items,
in document order, after the items already there; `keys` of any other type — none. -/
theorem C07_shape (o : KeyOracle) (s : KeySet) :
    ((jwksProcess o s none).items = s.items ∧ (jwksProcess o s none).error = true ∧ (jwksProcess o s none).msg = true) ∧
    (∀ j, j.objGet [107, 101, 121, 115] = none →
      (jwksProcess o s (some j)).items = s.items ++ [processOne o j] ∧ (jwksProcess o s (some j)).error = s.error) ∧
    (∀ j elems, j.objGet [107, 101, 121, 115] = some (.arr elems) →
      (jwksProcess o s (some j)).items = s.items ++ elems.map (processOne o) ∧
      (jwksProcess o s (some j)).items.length = s.items.length + elems.length ∧ (jwksProcess o s (some j)).error = s.error) ∧
    (∀ j v, j.objGet [107, 101, 121, 115] = some v → (∀ e, v ≠ .arr e) → jwksProcess o s (some j) = s) := by
  refine ⟨⟨rfl, rfl, rfl⟩, ?_, ?_, ?_⟩
  · intro j h; simp [jwksProcess, h]
  · intro j elems h; simp [jwksProcess, h]
  · intro j v h hv
    cases v <;> simp [jwksProcess, h] <;> exact absurd rfl (hv _)

/-- what every item must satisfy: flagged with a message, or a usable key (known kty, key material) -/
def Good (it : Item) : Prop :=
  (it.error = true → it.msg = true) ∧
  (it.error = false → it.kty ≠ 0 ∧ (it.hasPem = true ∨ it.oct ≠ []))

theorem fail_good (it : Item) : Good it.fail := by simp [Good, Item.fail]

/-- what a provider importer returns (`processEc_keyed`, …) is good when the item it was given has a type and no flag -/
theorem keyed_good {it r : Item} (hk : it.kty ≠ 0) (he : it.error = false)
    (h : ∃ p c q, r = { it with isPrivate := p, curve := c }.keyed q) : Good r := by
  obtain ⟨p, c, q, rfl⟩ := h
  unfold Item.keyed Good
  cases q with
  | none => simp
  | some q => obtain ⟨b, ok⟩ := q; cases ok <;> simp [hk, he]

/-- the metadata step never turns a good item into a bad one -/
theorem processValues_good (jwk : Json) (it : Item) (h : Good it) : Good (processValues jwk it) := by
  obtain ⟨u, o, e⟩ := processValues_closed jwk it
  rw [e]
  split
  · exact fail_good it
  · exact h   -- `Good` does not look at the four fields written

/-- **Items.** Every item `jwk_process_one` produces — for *every* JSON value, of any shape, in
every member position — either reports an error with a non-empty message or is a usable key object. -/
theorem C07_item (o : KeyOracle) (j : Json) : Good (processOne o j) := by
  unfold processOne
  split
  · exact fail_good _
  · split
    · exact processValues_good j _ (keyed_good (by decide) rfl (processEc_keyed o j _))
    · exact processValues_good j _ (keyed_good (by decide) rfl (processRsa_keyed o j _))
    · exact processValues_good j _ (keyed_good (by decide) rfl (processOkp_keyed o j _))
    · apply processValues_good
      rw [processOctet_eq]
      split
      · exact fail_good _
      · next hb => exact ⟨nofun, fun _ => ⟨nofun, .inr (bnOf_ne_nil hb)⟩⟩
    · exact fail_good _

/-- every item of a keyring built by any sequence of loads is good -/
theorem C07_all_items (o : KeyOracle) (s : KeySet) (doc : Option Json) (h : ∀ it ∈ s.items, Good it) :
    ∀ it ∈ (jwksProcess o s doc).items, Good it := by
  unfold jwksProcess
  cases doc with
  | none => exact h
  | some j =>
    simp only
    split
    · exact List.forall_mem_append.2 ⟨h, List.forall_mem_singleton.2 (C07_item o j)⟩
    · exact List.forall_mem_append.2 ⟨h, List.forall_mem_map.2 fun e _ => C07_item o e⟩
    · exact h

/-! ### non-vacuity: the shapes that used to crash are plain error items in the model -/
def noOracle : KeyOracle := { rsa := fun _ _ _ _ => none, ec := fun _ _ _ _ => none, okp := fun _ _ _ => none }
-- {"kty":"RSA","n":"AQAB","e":"AQAB","alg":null}
example : (processOne noOracle (.obj [([107, 116, 121], .str [82, 83, 65]), ([110], .str [65, 81, 65, 66]), ([101], .str [65, 81, 65, 66]),
    (N.alg, .null)])).error = true := by decide +kernel
-- {"kty":"OKP","crv":"Ed25519","x":5}
example : (processOne noOracle (.obj [([107, 116, 121], .str [79, 75, 80]), ([99, 114, 118], .str [69, 100, 50, 53, 53, 49, 57]),
    ([120], .int 5)])).error = true := by decide +kernel
-- {"kty":"oct","k":"AQID"}: a usable key
example : (processOne noOracle (.obj [([107, 116, 121], .str [111, 99, 116]), ([107], .str [65, 81, 73, 68])])) =
    { kty := 4, isPrivate := true, oct := [1, 2, 3], bits := 24 } := by decide +kernel

/-- **The import dispatch is the source's.** Which importer a JWK goes through is decided by the if-chain of
`jwk_process_one` as *generated* from `jwks.c`; fed with `jwt_strcmp` against the names of the generated kty table it
selects what the model's table lookup selects, and a missing, non-string or unknown `kty` gives a flagged item with a
message (never NULL, never an unflagged item without a key). -/
theorem C07_dispatch_is_source (kty : Bytes) :
    (Jwt.Generated.Pipeline.processOne false false false true (ktyIs kty [69, 67]) (ktyIs kty [82, 83, 65]) (ktyIs kty [79, 75, 80]) (ktyIs kty [111, 99, 116])).1
      = (lookup Jwt.Generated.ktyTable kty).getD 0 ∧
    (∀ a b c d s, Jwt.Generated.Pipeline.processOne false false true s a b c d = (0, true)) ∧
    (∀ a b c d, Jwt.Generated.Pipeline.processOne false false false false a b c d = (0, true)) :=
  ⟨processOne_dispatch kty, fun a b c d s => (processOne_refusals a b c d s).1, fun a b c d => (processOne_refusals a b c d false).2.1⟩

/-- `process_octet` as generated: an oct item is flagged (with a message) exactly when `k` is missing, not a string,
empty or refused by the decoder -/
theorem C07_oct_is_source (jwk : Json) (it : Item) (hit : it.error = false) (x1 x2 : Bool) :
    ((processOctet jwk it).error = true ↔ (processOctetGen jwk x1 x2).1 = 1) ∧
    ((processOctetGen jwk x1 x2).2 = true ↔ (processOctetGen jwk x1 x2).1 = 1) :=
  have p := processOctet_generated jwk it hit x1 x2
  ⟨p.1, p.2.2⟩

end Jwt.Props.C07
