import Jwt.Lemmas.Verify
import Jwt.Props.C11
import Jwt.Lemmas.Pipeline
import Jwt.Lemmas.PipelineClosed
/-!
# C06 — arbitrary token bytes: terminating, in-bounds, rejected unless well-formed

* **Termination**: every function of the model (`splitDot`, `uriDecode`, `decLoop`, `parse`,
  `verify`) is defined by structural recursion — Lean accepted the definitions without `partial`,
  fuel or well-founded recursion, so each terminates on every input.
* **Index arithmetic**: the buffer accesses of the two decoders `jwt_parse` reaches are covered by
  `C11_bounds_decode` (re-exported below for the exact call made here).
* **Memory safety / UB / leaks of the compiled code** are runtime facts; they are witnessed by the
  ASan/UBSan/LSan correspondence runs (suite `token-bytes`), not by a theorem.
-/
namespace Jwt.Props.C06
open Jwt Jwt.Base64

/-- **Rejection.** `jwt_checker_verify` returns 0 only for a string with two dots, whose first
segment base64url-decodes to text (cut at its first NUL) that loads as a JSON value with a *string*
member `alg` naming a known algorithm, and whose second segment decodes to text that loads as JSON. -/
theorem C06_reject (env : Env) (ck : Checker) (tok : Option Bytes) (h : (verify env ck tok).2 = 0) :
    ∃ t hd pl sg hb pb hj pj a s, tok = some t ∧ t = hd ++ [46] ++ pl ++ [46] ++ sg ∧
      (46 : UInt8) ∉ hd ∧ (46 : UInt8) ∉ pl ∧
      uriDecode hd = some hb ∧ env.jc.load (cstr hb) = some hj ∧
      hj.objGet N.alg = some (.str s) ∧ algStr a = some s ∧ a ≠ .inval ∧
      uriDecode pl = some pb ∧ env.jc.load (cstr pb) = some pj := by
  obtain ⟨t, p, rfl, hp, _⟩ := (verify_ok_iff env ck tok).1 h
  obtain ⟨hsplit, hd1, hd2, hh, hc, ha⟩ := (parse_ok env.jc t p).1 hp
  obtain ⟨s, hs, hname, hinv⟩ := (parseHeadAlg_ok _ _).1 ha
  unfold decodeToJson at hh hc
  cases hdh : uriDecode p.head with
  | none => simp [hdh] at hh
  | some hb =>
    cases hdp : uriDecode p.payload with
    | none => simp [hdp] at hc
    | some pb =>
      simp only [hdh] at hh
      simp only [hdp] at hc
      exact ⟨t, p.head, p.payload, p.sig, hb, pb, p.headers, p.claims, p.alg, s, rfl, hsplit, hd1, hd2,
        hdh, hh, hs, hname, hinv, hdp, hc⟩

/-- a string without two dots is rejected -/
theorem C06_no_dots (env : Env) (ck : Checker) (t : Bytes)
    (h : (46 : UInt8) ∉ t ∨ ∃ a b, t = a ++ [46] ++ b ∧ (46 : UInt8) ∉ a ∧ (46 : UInt8) ∉ b) :
    (verify env ck (some t)).2 ≠ 0 := by
  intro h0
  obtain ⟨t', hd, pl, sg, _, _, _, _, _, _, ht, hsplit, hd1, hd2, _⟩ := C06_reject env ck (some t) h0
  cases ht
  rcases h with h | ⟨a, b, hab, ha, hb⟩
  · apply h; rw [hsplit]; simp
  · -- the first dot of `t` splits it uniquely
    have e1 : splitDot t = some (a, b) := by
      rw [hab]
      have := splitDot_append a b ha
      simpa using this
    have e2 : splitDot t = some (hd, pl ++ [46] ++ sg) := by
      rw [hsplit]
      have := splitDot_append hd (pl ++ [46] ++ sg) hd1
      simpa using this
    rw [e1] at e2
    simp only [Option.some.injEq, Prod.mk.injEq] at e2
    apply hb
    rw [e2.2]; simp

/-- the decoder call `jwt_parse` makes stays inside its buffers (instance of `C11_bounds_decode`) -/
theorem C06_bounds (src buf : Bytes) (z : Nat) (hz : padCount src.length = some z)
    (hbuf : buf.length = decodeAlloc src.length z) :
    base64Decode (prepare src z) buf ≠ .oob ∧
    ∀ out j, uriDecodeBuf src buf = some (out, j) → j < out.length :=
  ⟨(Props.C11.C11_bounds_decode src buf z hz hbuf).1,
   fun out j h => ((Props.C11.C11_bounds_decode src buf z hz hbuf).2.2 out j h).1⟩

/-! ### non-vacuity -/
example : (46 : UInt8) ∉ ([101, 51, 48] : Bytes) := by decide
example : ∃ a b : Bytes, ([101, 46, 102] : Bytes) = a ++ [46] ++ b ∧ (46 : UInt8) ∉ a ∧ (46 : UInt8) ∉ b :=
  ⟨[101], [102], by decide⟩

/-- **The parse path is the source's.** The order of the tests of `jwt_parse`, `jwt_parse_head` and
`jwt_parse_payload` is *generated* from `jwt-verify.c` (`Jwt/Generated/Pipeline.lean`); the model parses a token
exactly when the generated `jwt_parse` returns 0, so everything proved about `parse` (C06_reject, C06_no_dots) is about
the order of tests that is in the code now. -/
theorem C06_parse_is_source (jc : JsonCodec) (tok : Bytes) (x1 x2 x3 x4 x5 x6 : Bool) :
    ((∃ p, parse jc tok = .ok p) ↔ (parseGen jc tok x1 x2 x3 x4 x5 x6).1 = 0) ∧
    ((parseGen jc tok x1 x2 x3 x4 x5 x6).1 = 0 ∨ (parseGen jc tok x1 x2 x3 x4 x5 x6).1 = 1) :=
  parse_generated jc tok x1 x2 x3 x4 x5 x6

/-- a header segment is taken exactly when the generated `jwt_parse_head` returns 0, and every refusal writes a message -/
theorem C06_head_is_source (jc : JsonCodec) (head : Bytes) (x1 x2 x3 : Bool) :
    ((∃ hs a, decodeToJson jc head = some hs ∧ parseHeadAlg hs = .ok a) ↔ (parseHeadGen jc head x1 x2 x3).1 = 0) ∧
    ((parseHeadGen jc head x1 x2 x3).2 = true ↔ (parseHeadGen jc head x1 x2 x3).1 = 1) :=
  ⟨(parseHead_generated jc head x1 x2 x3).1, (parseHead_generated jc head x1 x2 x3).2.2⟩

-- the premises are met: a token without dots, one with a single dot, one whose header is not base64
example : (Jwt.Generated.Pipeline.parse false true false false false).1 = 1 := by decide
example : (Jwt.Generated.Pipeline.parse false false false false false).1 = 0 := by decide

/-- the generated `jwt_parse` returns 0 exactly when both dots were found (and the copy made) and header and payload parsed -/
theorem C06_parse_closed_is_source : ∀ a b c d e : Bool,
    (Jwt.Generated.Pipeline.parse a b c d e).1 = (if !a && !b && !c && !d && !e then 0 else 1) :=
  fun a b c d e => (Jwt.Generated.Pipeline.parse_closed a b c d e).1

end Jwt.Props.C06
