import Jwt.Props.C05
import Jwt.Lemmas.EcFrame
import Jwt.Props.C01
/-!
# C05, ECDSA part — the `r‖s` framing between libjwt and the libraries

`C05_roundtrip` takes the law "what the provider's `sign` produced, the provider's `verify`
accepts" as a hypothesis about the whole `sign_sha_pem`/`verify_sha_pem` pair. For ES256/ES384/
ES512/ES256K a good part of that pair is libjwt's own buffer arithmetic (DER ↔ fixed-width `r‖s`);
here it is taken out of the hypothesis and proved, for every pair of integers below the field
size, every provider pair and every leading-zero pattern: the law that remains assumed is about the
*mathematical* signature `(r, s)` only.
-/
namespace Jwt.Props.C05
open Jwt Jwt.Cli Jwt.EcFrame Jwt.Generated

def Alg.isEcdsa : Alg → Bool | .es256 | .es384 | .es512 | .es256k => true | _ => false

/-- the coordinate width RFC 7518 §3.4 prescribes -/
def coordWidth : Alg → Nat | .es256 | .es256k => 32 | .es384 => 48 | .es512 => 66 | _ => 0

/-- **One table.** Every place a coordinate width is written down has RFC 7518's: the GnuTLS sign and
verify tables, and OpenSSL's `⌈bits/8⌉` for a key that has passed the size gate. -/
theorem width_tables (a : Alg) (he : Alg.isEcdsa a = true) :
    gnutlsAdjOf a = some (coordWidth a) ∧ gnutlsVerifyWidth a = coordWidth a ∧ coordWidth a ≠ 0 ∧
    ∀ k, strengthOk a k → osslBnLenSign k.bits = coordWidth a ∧ osslBnLenVerify k.bits = coordWidth a := by
  cases a <;> cases he <;>
    exact ⟨rfl, rfl, by decide, fun k hs => by rw [osslBnLenSign, osslBnLenVerify, hs.2]; exact ⟨rfl, rfl⟩⟩

/-- **What a framed signature is.** For a key that passes the size gate of its algorithm and integers
below `256^w`, both providers' sign paths deliver exactly `w` big-endian octets of `r` followed by
`w` big-endian octets of `s` — whatever the lengths the library reported (short values, values with
the top bit set and hence a DER sign octet, zero). -/
theorem C05_frame (p : Provider) (a : Alg) (k : KeyItem) (r s : Nat) (he : Alg.isEcdsa a = true)
    (hs : strengthOk a k) (hr : r < 256 ^ coordWidth a) (hsz : s < 256 ^ coordWidth a) :
    frame p a k.bits r s = some (exportPad (coordWidth a) r ++ exportPad (coordWidth a) s) := by
  obtain ⟨hadj, -, -, hb⟩ := width_tables a he
  cases p with
  | openssl =>
    rw [frame, osslFrame_eq, (hb k hs).1, if_pos ⟨(toBytesMin_length_le_iff r _).2 hr, (toBytesMin_length_le_iff s _).2 hsz⟩]
  | gnutls =>
    rw [frame, hadj, Option.bind_some, gnutlsFrame_eq, fit_derInt _ _ hr, fit_derInt _ _ hsz]

/-- **An oversized integer is refused by the OpenSSL path** (never silently truncated). -/
theorem C05_frame_oversize (bits r s : Nat) (h : 256 ^ osslBnLenSign bits ≤ r) : osslFrame bits r s = none := by
  rw [osslFrame_eq, if_neg]
  intro hl
  exact absurd ((toBytesMin_length_le_iff r _).1 hl.1) (Nat.not_lt.2 h)

/-- **Both verify paths.** A signature of exactly `2·w` octets is cut into its halves; any other is
refused. -/
theorem unframe_eq (p : Provider) (a : Alg) (k : KeyItem) (sig : Octets) (he : Alg.isEcdsa a = true)
    (hs : strengthOk a k) :
    unframe p a k.bits sig =
      if sig.length = 2 * coordWidth a then
        some (fromBytes (sig.take (coordWidth a)), fromBytes ((sig.drop (coordWidth a)).take (coordWidth a)))
      else none := by
  obtain ⟨-, hv, -, hb⟩ := width_tables a he
  cases p with
  | openssl =>
    simp only [unframe, osslUnframe, (hb k hs).2, osslVerifyMul_eq, ne_eq, ite_not, Nat.mul_comm _ 2, eq_comm]
  | gnutls =>
    simp only [unframe, gnutlsUnframe, hv, gnutlsVerifyMul, ne_eq, ite_not]

/-- **Verify side: only the exact width is read.** On both providers a signature reaches the library
only when it is exactly `2·w` octets long, `w` the width RFC 7518 prescribes for the algorithm (the key
has passed the size gate) — no truncated, extended or zero-extended form is ever re-encoded. -/
theorem C05_unframe_len (p : Provider) (a : Alg) (k : KeyItem) (sig : Octets) (rs : Nat × Nat)
    (he : Alg.isEcdsa a = true) (hs : strengthOk a k)
    (h : unframe p a k.bits sig = some rs) : sig.length = 2 * coordWidth a := by
  rw [unframe_eq p a k sig he hs] at h
  split at h
  · assumption
  · cases h

/-- what `C05_frame` delivers, either provider reads back -/
theorem unframe_exportPad (p : Provider) (a : Alg) (k : KeyItem) (r s : Nat) (he : Alg.isEcdsa a = true)
    (hs : strengthOk a k) (hr : r < 256 ^ coordWidth a) (hsz : s < 256 ^ coordWidth a) :
    unframe p a k.bits (exportPad (coordWidth a) r ++ exportPad (coordWidth a) s) = some (r, s) := by
  have lr := exportPad_length _ r hr
  have ls := exportPad_length _ s hsz
  obtain ⟨h1, h2⟩ := halves _ _ _ lr ls
  rw [unframe_eq p a k _ he hs, if_pos (by rw [List.length_append, lr, ls, Nat.two_mul]), h1, h2,
    fromBytes_exportPad, fromBytes_exportPad]

/-- **Framing round trip, all four provider pairs.** What either provider frames, either provider
reads back as the same pair of integers. -/
theorem C05_unframe_frame (pB pC : Provider) (a : Alg) (ks kc : KeyItem) (r s : Nat)
    (he : Alg.isEcdsa a = true) (hs : strengthOk a ks) (hbits : kc.bits = ks.bits)
    (hr : r < 256 ^ coordWidth a) (hsz : s < 256 ^ coordWidth a) :
    ∃ sig, frame pB a ks.bits r s = some sig ∧ sig.length = 2 * coordWidth a ∧
      unframe pC a kc.bits sig = some (r, s) := by
  refine ⟨_, C05_frame pB a ks r s he hs hr hsz, ?_, hbits ▸ unframe_exportPad pC a ks r s he hs hr hsz⟩
  rw [List.length_append, exportPad_length _ r hr, exportPad_length _ s hsz, Nat.two_mul]

/-! ## Plugging the framing into the round trip -/

/-- the mathematical ECDSA primitive: signing yields a pair of integers, verification takes one -/
structure RawEc where
  sign : Provider → KeyItem → Alg → Bytes → Option (Nat × Nat)
  verify : Provider → KeyItem → Alg → Bytes → Nat × Nat → Bool

def toU8 (l : Octets) : Bytes := l.map UInt8.ofNat
def ofU8 (b : Bytes) : Octets := b.map UInt8.toNat

/-- `sign_sha_pem` for an EC key: the primitive, then libjwt's framing -/
def ecSign (raw : RawEc) (p : Provider) (k : KeyItem) (a : Alg) (m : Bytes) : Option Bytes :=
  (raw.sign p k a m).bind fun rs => (frame p a k.bits rs.1 rs.2).map toU8

/-- `verify_sha_pem` for an EC key: libjwt's un-framing, then the primitive -/
def ecVerify (raw : RawEc) (p : Provider) (k : KeyItem) (a : Alg) (m sig : Bytes) : Bool :=
  match unframe p a k.bits (ofU8 sig) with
  | none => false
  | some rs => raw.verify p k a m rs

/-- **C01/C12 for ECDSA: only the algorithm's exact form reaches the library.** If the framed `verify`
of either provider accepts a third segment, that segment is exactly `2·w` octets — `w` big-endian octets
of `r`, then `w` of `s` — and it is this pair of integers the mathematical primitive accepted. No
truncated, extended or zero-extended re-framing of a valid pair is accepted, on either provider. -/
theorem C01_ecdsa_exact_form (raw : RawEc) (p : Provider) (a : Alg) (k : KeyItem) (m sig : Bytes)
    (he : Alg.isEcdsa a = true) (hs : strengthOk a k) (h : ecVerify raw p k a m sig = true) :
    sig.length = 2 * coordWidth a ∧
    raw.verify p k a m (fromBytes ((ofU8 sig).take (coordWidth a)),
      fromBytes (((ofU8 sig).drop (coordWidth a)).take (coordWidth a))) = true := by
  unfold ecVerify at h
  rw [unframe_eq p a k _ he hs] at h
  by_cases hl : (ofU8 sig).length = 2 * coordWidth a
  · rw [if_pos hl] at h
    exact ⟨by simpa [ofU8] using hl, h⟩
  · rw [if_neg hl] at h
    cases h

theorem ofU8_toU8 (l : Octets) (h : ∀ b ∈ l, b < 256) : ofU8 (toU8 l) = l := by
  induction l with
  | nil => rfl
  | cons x xs ih =>
    simp only [toU8, ofU8, List.map_cons, List.map_map] at ih ⊢
    rw [ih (fun b hb => h b (by simp [hb]))]
    have hx := h x (by simp)
    congr 1
    simp only [UInt8.toNat_ofNat']
    omega

theorem exportPad_lt (w n : Nat) : ∀ b ∈ exportPad w n, b < 256 := by
  intro b hb
  simp only [exportPad, List.mem_append, List.mem_replicate] at hb
  rcases hb with ⟨_, rfl⟩ | hb
  · omega
  · exact toBytesMin_lt n b hb

/-- **The law `C05_roundtrip` assumes, derived for ECDSA.** If the mathematical primitive's signatures
are pairs below the field size that the (possibly other) provider's primitive accepts, then the
framed `sign` output is non-empty and the framed `verify` accepts it. -/
theorem C05_ecdsa_law (raw : RawEc) (pB pC : Provider) (a : Alg) (ks kc : KeyItem)
    (he : Alg.isEcdsa a = true) (hs : strengthOk a ks) (hbits : kc.bits = ks.bits)
    (hraw : ∀ m r s, raw.sign pB ks a m = some (r, s) →
      r < 256 ^ coordWidth a ∧ s < 256 ^ coordWidth a ∧ raw.verify pC kc a m (r, s) = true) :
    ∀ m sig, ecSign raw pB ks a m = some sig → sig ≠ [] ∧ ecVerify raw pC kc a m sig = true := by
  intro m sig h
  unfold ecSign at h
  cases hsg : raw.sign pB ks a m with
  | none => simp [hsg] at h
  | some rs =>
    obtain ⟨r, s⟩ := rs
    obtain ⟨hr, hsz, hv⟩ := hraw m r s hsg
    rw [hsg, Option.bind_some, C05_frame pB a ks r s he hs hr hsz, Option.map_some] at h
    obtain rfl := Option.some.inj h
    constructor
    · intro e
      have hl := congrArg List.length e
      simp only [toU8, List.length_map, List.length_append, exportPad_length _ r hr, List.length_nil] at hl
      exact (width_tables a he).2.2.1 (by omega)
    · unfold ecVerify
      rw [ofU8_toU8, hbits, unframe_exportPad pC a ks r s he hs hr hsz]
      · exact hv
      · intro b hb
        rcases List.mem_append.1 hb with hb | hb <;> exact exportPad_lt _ _ b hb

/-- **C05 for ECDSA with the framing inside the proved part.** `C05_roundtrip` instantiated with a
crypto environment whose public-key operations are "mathematical ECDSA + libjwt's framing": the
remaining assumption is about integer pairs only. -/
theorem C05_roundtrip_ecdsa (raw : RawEc) (hm : Alg → Bytes → Bytes → Bytes) (envB envC : Env)
    (b : Builder) (ck : Checker) (tok : Bytes)
    (hcrB : envB.cr = { hmac := hm, pkVerify := ecVerify raw, pkSign := ecSign raw })
    (hgen : (generate envB b).2 = some tok)
    (hjc : envC.jc = envB.jc) (hcr : envC.cr = envB.cr)
    (hobj : Props.C15.IsObj (genAfterCb b.cfg envB.now).2.1)
    (ks kc : KeyItem) (hks : (genAfterCb b.cfg envB.now).2.2.2.key = some ks)
    (hkty : kc.kty = ks.kty) (hbits : kc.bits = ks.bits) (hoct : kc.oct = ks.oct)
    (hnocb : ck.cfg.cb = none) (hckey : ck.cfg.key = some kc)
    (hadm : setkeyCheck .checker ck.cfg.alg (some kc) = none)
    (hpin : pinned { key := some kc, alg := ck.cfg.alg } = usedAlg (genAfterCb b.cfg envB.now).2.2.2)
    (he : Alg.isEcdsa (usedAlg (genAfterCb b.cfg envB.now).2.2.2) = true)
    (hclaims : claimsFail ck.cfg.claims (genAfterCb b.cfg envB.now).2.2.1 envC.now = false)
    (hload : ∀ t, envB.jc.dump t ≠ [] → envB.jc.load (cstr (envB.jc.dump t)) = some t)
    (hmac_ne : ∀ a k m, hm a k m ≠ [])
    (hsup : envC.prov.supports (usedAlg (genAfterCb b.cfg envB.now).2.2.2) = true)
    (hstr : strengthOk (usedAlg (genAfterCb b.cfg envB.now).2.2.2) ks)
    (hraw : ∀ m r s, raw.sign envB.prov ks (usedAlg (genAfterCb b.cfg envB.now).2.2.2) m = some (r, s) →
      r < 256 ^ coordWidth (usedAlg (genAfterCb b.cfg envB.now).2.2.2) ∧
      s < 256 ^ coordWidth (usedAlg (genAfterCb b.cfg envB.now).2.2.2) ∧
      raw.verify envC.prov kc (usedAlg (genAfterCb b.cfg envB.now).2.2.2) m (r, s) = true) :
    (verify envC ck (some tok)).2 = 0 := by
  have halg : usedAlg (genAfterCb b.cfg envB.now).2.2.2 ≠ .none := by
    intro e; rw [e] at he; simp [Alg.isEcdsa] at he
  refine (C05_roundtrip envB envC b ck tok hgen hjc hcr hobj ks kc hks hkty hbits hoct hnocb hckey hadm hpin
    halg hclaims hload ?_ hsup ?_).1
  · intro a k m; rw [hcrB]; exact hmac_ne a k m
  · intro m sig hsg
    rw [hcrB] at hsg ⊢
    exact C05_ecdsa_law raw envB.prov envC.prov _ ks kc he hstr hbits hraw m sig hsg

/-! ## non-vacuity / sanity -/

-- a 3-octet field for readability: r = 0x0000ff (short, top bit set → DER sign octet), s = 0x800001
example : gnutlsFrame 3 (derInt 255) (derInt 0x800001) = some [0, 0, 255, 128, 0, 1] := by decide +kernel
example : derInt 255 = [0, 255] ∧ derInt 0x800001 = [0, 128, 0, 1] ∧ derInt 0 = [0] := by decide +kernel
example : osslFrame 24 255 0x800001 = some [0, 0, 255, 128, 0, 1] := by decide +kernel
example : osslFrame 24 0x1000000 1 = none := by decide +kernel
example : osslUnframe 24 [0, 0, 255, 128, 0, 1] = some (255, 0x800001) := by decide +kernel
example : osslUnframe 24 [0, 255, 128, 0, 1] = none := by decide +kernel
example : gnutlsUnframe .es384 (List.replicate 47 0 ++ [7] ++ List.replicate 47 0 ++ [9]) = some (7, 9) := by decide +kernel
-- the zero-extended form GnuTLS used to accept for ES256 (fixed in /repo 83e8028)
example : gnutlsUnframe .es256 (List.replicate 47 0 ++ [7] ++ List.replicate 47 0 ++ [9]) = none := by decide +kernel

end Jwt.Props.C05

namespace Jwt.Props.C05
open Jwt Jwt.Cli Jwt.EcFrame Jwt.Generated Jwt.Base64

/-- **C01 for ES256/ES384/ES512/ES256K, down to the integers.** With the provider's public-key verification
being "libjwt's un-framing, then the mathematical primitive" (`ecVerify`), a checker that holds a key
returns 0 on a token naming an ECDSA algorithm only if the third segment base64url-decodes to exactly
`2·w` octets — `w` the coordinate width of the pinned algorithm — and the two big-endian integers they
denote are a signature the primitive accepts, under that key, over the raw `header.payload` text. -/
theorem C01_sound_ecdsa (raw : RawEc) (hm : Alg → Bytes → Bytes → Bytes) (env : Env) (ck : Checker) (tok : Option Bytes)
    (hcr : env.cr = { hmac := hm, pkVerify := ecVerify raw, pkSign := ecSign raw })
    (h : (verify env ck tok).2 = 0) :
    ∃ t p, tok = some t ∧ parse env.jc t = .ok p ∧ t = p.head ++ [46] ++ p.payload ++ [46] ++ p.sig ∧
      ∀ k, (afterCb ck.cfg p).2.key = some k → Alg.isEcdsa p.alg = true →
        p.alg = pinned (afterCb ck.cfg p).2 ∧
        ∃ sig, uriDecode p.sig = some sig ∧ sig.length = 2 * coordWidth p.alg ∧
          raw.verify env.prov k p.alg (signingInput p.head p.payload)
            (fromBytes ((ofU8 sig).take (coordWidth p.alg)),
             fromBytes (((ofU8 sig).drop (coordWidth p.alg)).take (coordWidth p.alg))) = true := by
  obtain ⟨t, p, ht, hp, hshape, _, _, hk⟩ := Jwt.Props.C01.C01_sound env ck tok h
  refine ⟨t, p, ht, hp, hshape, ?_⟩
  intro k hkey hec
  obtain ⟨hpin, hstr, hsig⟩ := hk k hkey
  refine ⟨hpin, ?_⟩
  rcases hsig with ⟨hh, _⟩ | ⟨_, sig, hdec, hver⟩
  · cases hpa : p.alg <;> simp [hpa, Alg.isEcdsa, Alg.isHmac] at hec hh
  · rw [hcr] at hver
    obtain ⟨hl, hv⟩ := C01_ecdsa_exact_form raw env.prov p.alg k _ sig hec hstr hver
    exact ⟨sig, hdec, hl, hv⟩

end Jwt.Props.C05
