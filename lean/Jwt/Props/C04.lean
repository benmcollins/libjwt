import Jwt.Lemmas.Verify
import Jwt.Lemmas.Json
import Jwt.Checker
import Jwt.Generated.ClaimRules
import Jwt.Lemmas.PipelineConfig
import Jwt.Lemmas.PipelineClaims
/-!
# C04 — claim checks (exp, nbf, iss, sub, aud) are enforced exactly as configured

Integers are unbounded in the model; the code computes `now ± leeway` in 64-bit `time_t`, which
coincides as long as `|now|, |leeway| < 2^62` (the property quantifies leeways in [0, 2^40]).
The defaults and the disable bound are *generated* from jwt-common.c (`CLAIMS_DEF`, `__DISABLE`).
-/
namespace Jwt.Props.C04
open Jwt Jwt.Generated

/-! ### the individual checks -/

/-- **The comparisons are the source's** (generated from `__verify_claims` of `jwt-verify.c`, which reads the
clock once): with the check on and an integer claim present, the model's `exp` check fails exactly when the
translated test `jval.int_val <= now - leeway` holds, and the `nbf` check exactly when `jval.int_val > now +
leeway` holds; the string claims checked are `iss`, `sub`, `aud`. A `<=` turned `<`, a sign of the leeway
flipped, a claim dropped from the list fails here at build time. -/
theorem C04_comparisons_are_source (c : ClaimCfg) (claims : Json) (now v : Int) :
    (c.mask.exp = true → claims.objGet N.exp = some (.int v) →
      (expFails c claims now = true ↔ Generated.srcExpFails v now c.expLeeway)) ∧
    (c.mask.nbf = true → claims.objGet N.nbf = some (.int v) →
      (nbfFails c claims now = true ↔ Generated.srcNbfFails v now c.nbfLeeway)) ∧
    Generated.srcStrClaims = [("ISS", "iss"), ("SUB", "sub"), ("AUD", "aud")] := by
  refine ⟨?_, ?_, by decide⟩
  · intro hon hg
    simp [expFails, getInt, hon, hg, Generated.srcExpFails]
  · intro hon hg
    simp [nbfFails, getInt, hon, hg, Generated.srcNbfFails]

/-- expiry on, `exp` an integer: passes exactly while `exp > now − leeway` -/
theorem C04_exp (c : ClaimCfg) (claims : Json) (now e : Int) (hon : c.mask.exp = true)
    (he : claims.objGet N.exp = some (.int e)) : expFails c claims now = false ↔ e > now - c.expLeeway := by
  simp [expFails, hon, getInt, he]

/-- not-before on, `nbf` an integer: passes exactly once `nbf ≤ now + leeway` -/
theorem C04_nbf (c : ClaimCfg) (claims : Json) (now n : Int) (hon : c.mask.nbf = true)
    (hn : claims.objGet N.nbf = some (.int n)) : nbfFails c claims now = false ↔ n ≤ now + c.nbfLeeway := by
  simp [nbfFails, hon, getInt, hn]

/-- an `exp`/`nbf` that is present but not a JSON integer (real, string, bool, null, array, object)
is rejected; an absent one passes; a switched-off check passes everything -/
theorem C04_type (c : ClaimCfg) (claims : Json) (now : Int) :
    (c.mask.exp = true → ∀ v, claims.objGet N.exp = some v → (∀ i, v ≠ .int i) → expFails c claims now = true) ∧
    (c.mask.nbf = true → ∀ v, claims.objGet N.nbf = some v → (∀ i, v ≠ .int i) → nbfFails c claims now = true) ∧
    (claims.objGet N.exp = none → expFails c claims now = false) ∧
    (claims.objGet N.nbf = none → nbfFails c claims now = false) ∧
    (c.mask.exp = false → expFails c claims now = false) ∧ (c.mask.nbf = false → nbfFails c claims now = false) := by
  have ty : ∀ n v, claims.objGet n = some v → (∀ i, v ≠ .int i) → getInt claims n = .type := fun n v hv hni => by
    unfold getInt; rw [hv]; cases v <;> first | rfl | exact absurd rfl (hni _)
  exact ⟨fun hon v hv hni => by simp [expFails, hon, ty _ v hv hni], fun hon v hv hni => by simp [nbfFails, hon, ty _ v hv hni],
    fun h => by simp [expFails, getInt, h], fun h => by simp [nbfFails, getInt, h],
    fun h => by simp [expFails, h], fun h => by simp [nbfFails, h]⟩

/-- for a string claim the application set to `want`: accepted exactly when the token carries the
claim as a string byte-for-byte equal to `want` -/
theorem C04_str (expected claims : Json) (name want : Bytes)
    (hw : (expected.objGet name).bind Json.strVal = some want) :
    strClaimFails true expected claims name = false ↔ claims.objGet name = some (.str want) := by
  unfold strClaimFails
  simp only [Bool.not_true, Bool.false_eq_true, if_false, hw]
  cases h : claims.objGet name with
  | none => simp
  | some v => cases v <;> simp

/-- **Defaults**: a new checker has expiry and not-before checking on with zero leeway and no
issuer/subject/audience expectation (over the generated `CLAIMS_DEF`). -/
theorem C04_defaults :
    Checker.new.cfg.claims.mask = { exp := true, nbf := true } ∧
    Checker.new.cfg.claims.expLeeway = 0 ∧ Checker.new.cfg.claims.nbfLeeway = 0 := by decide

/-- the bit `jwt_checker_time_leeway` stores, over the generated `__DISABLE = -1` -/
theorem leewayOn_iff (s : Int) : (!decide (s ≤ checkerDisable)) = true ↔ s ≥ 0 := by
  have hd : checkerDisable = -1 := rfl
  simp [hd]
  omega

/-- **Disable rule**: after `time_leeway(claim, s)` the check is on iff `s ≥ 0`, i.e. switched off
only by a negative leeway (over the generated `__DISABLE = -1`), and the leeway is `s`. -/
theorem C04_disable (ck : Checker) (s : Int) :
    ((ck.timeLeeway .exp s).1.cfg.claims.mask.exp = true ↔ s ≥ 0) ∧ (ck.timeLeeway .exp s).1.cfg.claims.expLeeway = s ∧
    ((ck.timeLeeway .nbf s).1.cfg.claims.mask.nbf = true ↔ s ≥ 0) ∧ (ck.timeLeeway .nbf s).1.cfg.claims.nbfLeeway = s :=
  ⟨leewayOn_iff s, rfl, leewayOn_iff s, rfl⟩

/-- **Enforced for every token**, signed or unsigned, whatever the key: acceptance implies that no
configured claim check failed on the claims *as parsed from the token*. -/
theorem C04_enforced (env : Env) (ck : Checker) (tok : Option Bytes) (h : (verify env ck tok).2 = 0) :
    ∃ t p, tok = some t ∧ parse env.jc t = .ok p ∧ claimsFail ck.cfg.claims p.claims env.now = false := by
  obtain ⟨t, p, ht, hp, acc⟩ := (verify_ok_iff env ck tok).1 h
  exact ⟨t, p, ht, hp, acc.claims⟩

/-! ### the policy in force is that of the most recent configuration calls -/

inductive TimePol where | off | on (leeway : Int) deriving DecidableEq, Repr
inductive StrPol where | off | must (v : Bytes) | rejectAll deriving DecidableEq, Repr

/-- the abstract policy: what the application asked for, per claim -/
structure Policy where
  exp : TimePol
  nbf : TimePol
  iss : StrPol
  sub : StrPol
  aud : StrPol
  deriving DecidableEq, Repr

def strPol (on : Bool) (expected : Json) (name : Bytes) : StrPol :=
  if !on then .off else match (expected.objGet name).bind Json.strVal with
    | some v => .must v
    | none => .rejectAll

def abs (c : ClaimCfg) : Policy :=
  { exp := if c.mask.exp then .on c.expLeeway else .off,
    nbf := if c.mask.nbf then .on c.nbfLeeway else .off,
    iss := strPol c.mask.iss c.expected N.iss, sub := strPol c.mask.sub c.expected N.sub,
    aud := strPol c.mask.aud c.expected N.aud }

def strPolFails (p : StrPol) (claims : Json) (name : Bytes) : Bool :=
  match p with
  | .off => false
  | .rejectAll => true
  | .must v => match claims.objGet name with | some (.str g) => g ≠ v | _ => true

/-- the verdict of the claim checks under an abstract policy -/
def policyFails (p : Policy) (claims : Json) (now : Int) : Bool :=
  (match p.exp with | .off => false | .on l => match getInt claims N.exp with | .ok e => e ≤ now - l | .noexist => false | .type => true) ||
  (match p.nbf with | .off => false | .on l => match getInt claims N.nbf with | .ok n => n > now + l | .noexist => false | .type => true) ||
  strPolFails p.iss claims N.iss || strPolFails p.sub claims N.sub || strPolFails p.aud claims N.aud

theorem strClaimFails_eq (on : Bool) (expected claims : Json) (name : Bytes) :
    strClaimFails on expected claims name = strPolFails (strPol on expected name) claims name := by
  cases on
  · rfl
  · simp only [strClaimFails, strPol]
    cases (expected.objGet name).bind Json.strVal <;> rfl

/-- the checker's verdict depends on its configuration only through the abstract policy -/
theorem claimsFail_eq_policy (c : ClaimCfg) (claims : Json) (now : Int) :
    claimsFail c claims now = policyFails (abs c) claims now := by
  simp only [claimsFail, policyFails, abs, strClaimFails_eq]
  congr 4
  · unfold expFails; cases c.mask.exp <;> rfl
  · unfold nbfFails; cases c.mask.nbf <;> rfl

/-- the configuration calls of the property -/
inductive CfgOp where
  | claimSet (c : ClaimId) (v : Option Bytes)
  | claimDel (c : ClaimId)
  | leeway (c : ClaimId) (s : Int)

def apply (ck : Checker) : CfgOp → Checker
  | .claimSet c v => (ck.claimSet c v).1
  | .claimDel c => (ck.claimDel c).1
  | .leeway c s => (ck.timeLeeway c s).1

def setStr (v : Bytes) : StrPol := if validUtf8 v then .must v else .rejectAll

/-- what each call means for the policy: it overwrites the entry of the claim it names, nothing else -/
def specStep (p : Policy) : CfgOp → Policy
  | .claimSet .iss (some v) => { p with iss := setStr v }
  | .claimSet .sub (some v) => { p with sub := setStr v }
  | .claimSet .aud (some v) => { p with aud := setStr v }
  | .claimSet _ _ => p
  | .claimDel .iss => { p with iss := .off }
  | .claimDel .sub => { p with sub := .off }
  | .claimDel .aud => { p with aud := .off }
  | .claimDel _ => p
  | .leeway .exp s => { p with exp := if s ≥ 0 then .on s else .off }
  | .leeway .nbf s => { p with nbf := if s ≥ 0 then .on s else .off }
  | .leeway _ _ => p

/-- the expected-values object stays an object -/
def WF (ck : Checker) : Prop := ∃ kvs, ck.cfg.claims.expected = .obj kvs

theorem WF_iff (ck : Checker) : WF ck ↔ ck.cfg.claims.expected.isObject = true := Json.isObject_iff.symm

/-- no configuration call changes whether the expected-values object is an object: whatever name a
claim has, the calls only delete and set members -/
theorem apply_wf (ck : Checker) (op : CfgOp) (h : WF ck) : WF (apply ck op) := by
  rw [WF_iff] at h ⊢
  cases op with
  | claimSet c v =>
    simp only [apply, Checker.claimSet]
    split <;> try exact h
    split <;> simpa using h
  | claimDel c =>
    simp only [apply, Checker.claimDel]
    split <;> simpa using h
  | leeway c s => cases c <;> exact h

/-! the entry of a string claim after a member of the expected-values object was deleted or set -/

theorem strPol_objDel (on : Bool) (e : Json) (n k : Bytes) :
    strPol on (e.objDel k) n = if n = k then (if on then .rejectAll else .off) else strPol on e n := by
  by_cases hk : n = k <;> cases on <;> simp [strPol, Json.objGet_objDel, hk]

theorem strPol_objSet (on : Bool) {e : Json} (he : e.isObject = true) (n k v : Bytes) :
    strPol on (e.objSet k (.str v)) n = if n = k then (if on then .must v else .off) else strPol on e n := by
  by_cases hk : n = k <;> cases on <;> simp [strPol, Json.objGet_objSet he, hk, Json.strVal]

theorem names : checkerClaimName .iss = some N.iss ∧ checkerClaimName .sub = some N.sub ∧
    checkerClaimName .aud = some N.aud := ⟨rfl, rfl, rfl⟩

theorem nameNe : N.iss ≠ N.sub ∧ N.iss ≠ N.aud ∧ N.sub ≠ N.aud := by decide

/-- **Refinement**: every configuration call acts on the abstract policy exactly as `specStep` says -/
theorem apply_abs (ck : Checker) (op : CfgOp) (h : WF ck) :
    abs (apply ck op).cfg.claims = specStep (abs ck.cfg.claims) op := by
  have he := (WF_iff ck).1 h
  obtain ⟨n1, n2, n3⟩ := names
  obtain ⟨e1, e2, e3⟩ := nameNe
  cases op with
  | claimSet c v =>
    cases v with
    | none => cases c <;> rfl
    | some v =>
      cases c with
      | iss | sub | aud =>
        by_cases hv : validUtf8 v = true <;>
          simp only [apply, Checker.claimSet, specStep, n1, n2, n3, hv, abs, setStr, ClaimMask.set, Json.objSet_objDel,
            strPol_objSet _ he, strPol_objDel, e1, e2, e3, e1.symm, e2.symm, e3.symm, ↓reduceIte, Bool.false_eq_true] <;> rfl
      | _ => rfl
  | claimDel c =>
    cases c with
    | iss | sub | aud =>
      simp only [apply, Checker.claimDel, specStep, n1, n2, n3, abs, ClaimMask.set, strPol_objDel,
        e1, e2, e3, e1.symm, e2.symm, e3.symm, ↓reduceIte, Bool.false_eq_true] <;> rfl
    | _ => rfl
  | leeway c s =>
    cases c with
    | exp | nbf => simp only [apply, Checker.timeLeeway, specStep, abs, ClaimMask.set, leewayOn_iff] <;> rfl
    | _ => rfl

/-- **History**: after any sequence of configuration calls the policy in force is the fold of their
meanings — and each meaning overwrites exactly the entry of the claim it names, so the entry of
every claim is that of the most recent call naming it (`C04_last_exp` spells this out for `exp`). -/
theorem C04_history (ck : Checker) (ops : List CfgOp) (h : WF ck) :
    abs (ops.foldl apply ck).cfg.claims = ops.foldl specStep (abs ck.cfg.claims) ∧ WF (ops.foldl apply ck) := by
  induction ops generalizing ck with
  | nil => exact ⟨rfl, h⟩
  | cons op ops ih =>
    rw [List.foldl_cons, List.foldl_cons, ← apply_abs ck op h]
    exact ih _ (apply_wf ck op h)

/-- the most recent `time_leeway(exp, ·)` in a history, if any -/
def lastExp : List CfgOp → Option Int
  | [] => none
  | op :: ops => match lastExp ops with
    | some s => some s
    | none => match op with | .leeway .exp s => some s | _ => none

theorem C04_last_exp (p : Policy) (ops : List CfgOp) :
    (ops.foldl specStep p).exp = match lastExp ops with
      | some s => if s ≥ 0 then .on s else .off
      | none => p.exp := by
  induction ops generalizing p with
  | nil => rfl
  | cons op ops ih =>
    simp only [List.foldl_cons, lastExp]
    rw [ih]
    cases lastExp ops with
    | some s => rfl
    | none =>
      cases op with
      | claimSet c v => cases c <;> cases v <;> rfl
      | claimDel c => cases c <;> rfl
      | leeway c s => cases c <;> rfl

/-! ### non-vacuity -/
example : WF Checker.new := ⟨[], rfl⟩
-- boundary of C04_exp at leeway 0: exp = now is already expired, exp = now + 1 is not
example : expFails Checker.new.cfg.claims (.obj [(N.exp, .int 100)]) 100 = true ∧
    expFails Checker.new.cfg.claims (.obj [(N.exp, .int 101)]) 100 = false := by decide
example : nbfFails Checker.new.cfg.claims (.obj [(N.nbf, .int 100)]) 100 = false ∧
    nbfFails Checker.new.cfg.claims (.obj [(N.nbf, .int 101)]) 100 = true := by decide
example : (abs (apply (apply Checker.new (.claimSet .iss (some [97]))) (.leeway .exp (-1))).cfg.claims) =
    { exp := .off, nbf := .on 0, iss := .must [97], sub := .off, aud := .off } := by decide

/-- **The policy calls are the source's.** `jwt_checker_claim_set`, `jwt_checker_claim_del` and `jwt_checker_time_leeway`
are *generated* from `jwt-common.c` with flags for what they store. The claim's bit is set as soon as a value for
iss/sub/aud is given -- whether or not storing it then succeeds (a refused value leaves the claim checked against nothing:
fail closed); a leeway is stored as passed, of any size, and switches the check on unless it is `<= __DISABLE`. -/
theorem C04_claim_set_is_source (ck : Checker) (c : ClaimId) (v : Option Bytes) :
    let sf : Nat := match v with | some x => if validUtf8 x then 0 else 1 | none => 0
    let r := Jwt.Generated.Pipeline.checkerClaimSet false v.isNone (checkerClaimName c).isNone sf
    (ck.claimSet c v).2 = r.1 ∧ (r.2.2 = true → (ck.claimSet c v).1.cfg.claims.mask = ck.cfg.claims.mask.set c true) :=
  have g := checker_claimSet_generated ck c v
  ⟨g.1, g.2.1⟩

theorem C04_leeway_is_source (ck : Checker) (c : ClaimId) (secs : Int) :
    let r := Jwt.Generated.Pipeline.timeSpan false (c = .exp) (c = .nbf) (secs ≤ Jwt.Generated.checkerDisable)
    (ck.timeLeeway c secs).2 = r.1 ∧ (r.2.2.1 = true → (ck.timeLeeway c secs).1.cfg.claims.expLeeway = secs) ∧
    (r.2.2.2.1 = true → (ck.timeLeeway c secs).1.cfg.claims.nbfLeeway = secs) :=
  have g := checker_timeLeeway_generated ck c secs
  ⟨g.1, g.2.1, g.2.2.1⟩

/-- **The claims check is the source's.** `__verify_claims` and `__check_str_claim` are *generated* from `jwt-verify.c`;
the kernel evaluates the generated code over every combination of its tests: each bit of the returned mask depends on its
own check only, in the closed form `verifyClaims_closed`. With the tests fed by the model's quantities, each of the model's
five checks equals the corresponding bit, and the model's verdict is their disjunction. -/
theorem C04_verify_claims_is_source (c : ClaimCfg) (claims : Json) (now : Int) :
    let r := verifyClaimsGen c claims now
    expFails c claims now = r.2.2.1 ∧ nbfFails c claims now = r.2.2.2.1 ∧
    strClaimFails c.mask.iss c.expected claims N.iss = r.2.2.2.2.1 ∧ strClaimFails c.mask.sub c.expected claims N.sub = r.2.2.2.2.2.1 ∧
    strClaimFails c.mask.aud c.expected claims N.aud = r.2.2.2.2.2.2 ∧
    (claimsFail c claims now = (r.2.2.1 || r.2.2.2.1 || r.2.2.2.2.1 || r.2.2.2.2.2.1 || r.2.2.2.2.2.2)) :=
  verifyClaims_generated c claims now

end Jwt.Props.C04
