import Jwt.Lemmas.Base64Round
/-!
# C11 — base64url encoding and decoding are exact inverses and reject foreign bytes

Property theorems only (helper lemmas live in `Jwt/Lemmas`). Everything is stated about the
literal model `Jwt.Base64` (`uriEncode`, `uriDecode`, `uriDecodeBuf`, `base64Encode`) whose tables
and size macros are *generated* from `/repo/libjwt/base64.[ch]` on every run, for byte strings of
every length.
-/
namespace Jwt.Props.C11
open Jwt Jwt.Base64 Jwt.Generated

/-- The character set of RFC 4648 §5. -/
def isUrlChar (c : UInt8) : Prop :=
  (65 ≤ c ∧ c ≤ 90) ∨ (97 ≤ c ∧ c ≤ 122) ∨ (48 ≤ c ∧ c ≤ 57) ∨ c = 45 ∨ c = 95

/-- **Form.** What the encoder leaves in `*_dst` is RFC 4648 §5 base64url without padding:
the sextets of the input, most significant first, through the URL alphabet. -/
theorem C11_form (bs : Bytes) : uriEncode bs = rfc4648url bs := uriEncode_eq_rfc bs

theorem alphaUrl_isUrlChar : ∀ n, n < 64 → isUrlChar (alphaUrl n) := by
  unfold isUrlChar; decide +kernel

/-- … over the URL alphabet only (in particular no `=`, `+`, `/`, `.` and no NUL), -/
theorem C11_alphabet (bs : Bytes) : ∀ c ∈ uriEncode bs, isUrlChar c := by
  rw [C11_form, rfc4648url, ← sextetsB_eq]
  intro c hc
  obtain ⟨n, hn, rfl⟩ := List.mem_map.1 hc
  exact alphaUrl_isUrlChar n (sextetsB_lt bs n hn)

/-- … of length `⌈4·|bs|/3⌉`. -/
theorem C11_length (bs : Bytes) : (uriEncode bs).length = (bs.length * 4 + 2) / 3 := by
  rw [C11_form]; simp [rfc4648url, sextets_length]

/-- **Round trip.** Decoding inverts encoding for every non-empty byte string. -/
theorem C11_roundtrip (bs : Bytes) (hne : bs ≠ []) : uriDecode (uriEncode bs) = some bs := by
  rw [uriDecode_eq_spec, C11_form, decodeSpec_rfc bs hne]

/-- The empty string encodes to the empty text, which the decoder refuses (`ret_len <= 0`). -/
theorem C11_empty : uriEncode [] = [] ∧ uriDecode [] = none := by decide

/-- **Full functional characterisation of the decoder**, for every text. -/
theorem C11_decode_spec (text : Bytes) : uriDecode text = decodeSpec text := uriDecode_eq_spec text

/-- **Rejection.** A byte outside both alphabets ahead of the first `=` — the text is rejected
rather than partially decoded. -/
theorem C11_reject_foreign (text : Bytes) (c : UInt8) (hc : c ∈ text.takeWhile (· ≠ 61))
    (hforeign : urlVal c = none) : uriDecode text = none := by
  rw [uriDecode_eq_spec]
  unfold decodeSpec
  split
  · rfl
  · cases hm : (text.takeWhile (· ≠ 61)).mapM urlVal with
    | none => rfl
    | some vs =>
      have := mapM_eq_some.1 hm ▸ List.mem_map_of_mem (f := urlVal) hc
      simp [hforeign] at this

/-- `urlVal c = none` says exactly "outside the base64 and base64url alphabets". -/
theorem urlVal_none_iff : ∀ n, n < 256 →
    (urlVal (UInt8.ofNat n) = none ↔
      ¬ (isUrlChar (UInt8.ofNat n) ∨ UInt8.ofNat n = 43 ∨ UInt8.ofNat n = 47)) := by
  unfold isUrlChar; decide +kernel

/-- **Rejection.** A length of 1 modulo 4 is refused. -/
theorem C11_reject_len (text : Bytes) (h : text.length % 4 = 1) : uriDecode text = none := by
  rw [uriDecode_eq_spec]; simp [decodeSpec, h]

/-- **Bounds, encoder.** `base64_encode` writes `out[0..j]` sequentially (`j` characters and the
final NUL); `j + 1` equals the generated `BASE64_ENCODE_OUT_SIZE(len)`, and
`jwt_base64uri_encode` allocates one byte more than that. Table reads are in range
(`enIdx_lt`). -/
theorem C11_bounds_encode (bs : Bytes) :
    (base64Encode bs).length + 1 = encodeOutSize bs.length ∧
    (base64Encode bs).length + 1 < uriEncodeAlloc bs.length := by
  rw [base64Encode_length]
  unfold uriEncodeAlloc encodeOutSize
  omega

/-- **Bounds, decoder.** For every source text and *every* initial content of an output buffer of
the size the code allocates (`BASE64_DECODE_OUT_SIZE(len + z) + 1`, generated), the literal
bounds-checked loop never reads or writes outside it, its result does not depend on that content
and equals `decodeSpec`, and the index where `jwt_base64uri_decode_to_json` then stores its NUL is
inside the buffer. The decode-table read is in range by `deLast_lt_table`. -/
theorem C11_bounds_decode (src buf : Bytes) (z : Nat) (hz : padCount src.length = some z)
    (hbuf : buf.length = decodeAlloc src.length z) :
    base64Decode (prepare src z) buf ≠ .oob ∧
    (uriDecodeBuf src buf).map (fun r => r.1.take r.2) = decodeSpec src ∧
    ∀ out j, uriDecodeBuf src buf = some (out, j) → j < out.length ∧ out.length = buf.length :=
  uriDecodeBuf_spec src buf z hz hbuf

/-- the table reads of both directions stay inside the generated tables -/
theorem C11_table_reads (l c : UInt8) :
    ((c >>> 2) &&& 0x3F).toNat < base64en.length ∧
    (((l &&& 0x3) <<< 4) ||| ((c >>> 4) &&& 0xF)).toNat < base64en.length ∧
    (((l &&& 0xF) <<< 2) ||| ((c >>> 6) &&& 0x3)).toNat < base64en.length ∧
    (c &&& 0x3F).toNat < base64en.length ∧
    ((l &&& 0x3) <<< 4).toNat < base64en.length ∧ ((l &&& 0xF) <<< 2).toNat < base64en.length ∧
    deLast.toNat < base64de.length :=
  ⟨(enIdx_lt l c).1, (enIdx_lt l c).2.1, (enIdx_lt l c).2.2.1, (enIdx_lt l c).2.2.2.1,
   (enIdx_lt l c).2.2.2.2.1, (enIdx_lt l c).2.2.2.2.2, deLast_lt_table⟩

/-! ### non-vacuity: concrete instances of every hypothesis, and the model computing the RFC's own examples -/

-- RFC 4648 §10 test vectors (unpadded): "f" ↦ "Zg", "fo" ↦ "Zm8", "foobar" ↦ "Zm9vYmFy"
example : uriEncode [102] = [90, 103] := by decide +kernel
example : uriEncode [102, 111] = [90, 109, 56] := by decide +kernel
example : uriEncode [102, 111, 111, 98, 97, 114] = [90, 109, 57, 118, 89, 109, 70, 121] := by decide +kernel
-- 0xfb 0xff ↦ "-_8": the two URL-specific characters
example : uriEncode [0xfb, 0xff] = [45, 95, 56] := by decide +kernel
-- "Zm9vYmE" ↦ "fooba"
example : uriDecode [90, 109, 57, 118, 89, 109, 69] = some [102, 111, 111, 98, 97] := by decide +kernel
-- C11_roundtrip's hypothesis
example : ([102, 111, 111, 98, 97] : Bytes) ≠ [] := by decide
-- C11_reject_foreign's hypotheses: '.' (46) ahead of any padding in "Zm.v"
example : (46 : UInt8) ∈ ([90, 109, 46, 118] : Bytes).takeWhile (· ≠ 61) ∧ urlVal 46 = none := by decide +kernel
-- foreign bytes *after* a pad are outside the rejection clause (and are indeed ignored): "Zm8=.!." ↦ "fo"
example : uriDecode [90, 109, 56, 61, 46, 33, 46] = some [102, 111] := by decide +kernel
-- C11_reject_len: "Zm9vY"
example : ([90, 109, 57, 118, 89] : Bytes).length % 4 = 1 := by decide
-- C11_bounds_decode: hypotheses met by a garbage-filled buffer, source "Zm8"
example : padCount ([90, 109, 56] : Bytes).length = some 1 ∧
    ([0xAA, 0xBB, 0xCC, 0xDD] : Bytes).length = decodeAlloc ([90, 109, 56] : Bytes).length 1 := by decide +kernel
example : uriDecodeBuf [90, 109, 56] [0xAA, 0xBB, 0xCC, 0xDD] = some ([102, 111, 0, 0xDD], 2) := by decide +kernel

end Jwt.Props.C11
