import Jwt.Ops
import Jwt.Generated.DigestTables
import Jwt.Lemmas.Builder
import Jwt.Lemmas.StrCmpCode
/-!
# C12 — crypto providers are interchangeable

Proved: the switch (exact name / id of a compiled-in provider, current one untouched otherwise,
`JWT_CRYPTO` handling) over the *generated* provider table; that verification and generation depend
on the provider only through the primitives' answers (so two providers whose primitives agree on
the inputs at hand give the same verdict / token — the policy cannot differ); and that both ops
tables parse JWKs with the same functions (generated fact), so keys loaded under one provider are
the same objects under the other. That OpenSSL and GnuTLS *compute the same functions* is sampled
(suites `providers`, `roundtrip`, `verify-sig-gnutls`), not proved (PARTIAL).
-/
namespace Jwt.Props.C12
open Jwt Jwt.Generated

/-- either switch, for any field `key` of a table entry looked up for the value `v` (`acc` reads that field at
an index, as `opsName` / `opsId` do): it succeeds iff some entry has `v` there, then selects the first that
does; otherwise it returns 1 and leaves the current provider as it was -/
theorem switch_spec {κ : Type} [DecidableEq κ] (key : Bytes × Nat → κ) (d v : κ) (cur : Nat) (r : Nat × Nat)
    (hr : r = match scanOps (fun e => key e = v) with | some i => (i, 0) | none => (cur, 1))
    (acc : Nat → κ) (hacc : ∀ i, acc i = (providers[i]?.map key).getD d) :
    (r.2 = 0 ↔ ∃ i, i < providers.length ∧ acc i = v) ∧ (r.2 = 0 → acc r.1 = v) ∧ (r.2 ≠ 0 → r.1 = cur) := by
  subst hr
  unfold scanOps
  cases h : providers.findIdx? (fun e => key e = v) with
  | none =>
    rw [List.findIdx?_eq_none_iff] at h
    refine ⟨⟨by simp, ?_⟩, by simp, by simp⟩
    rintro ⟨i, hi, hn⟩
    have := h providers[i] (List.getElem_mem hi)
    simp [hacc, List.getElem?_eq_getElem hi] at hn
    simp [hn] at this
  | some i =>
    obtain ⟨hi, hp, _⟩ := List.findIdx?_eq_some_iff_getElem.1 h
    have hn : acc i = v := by simpa [hacc, List.getElem?_eq_getElem hi] using hp
    exact ⟨⟨fun _ => ⟨i, hi, hn⟩, fun _ => rfl⟩, fun _ => hn, by simp⟩

/-- **Switch by name**: succeeds iff the name is byte-for-byte the name of a compiled-in provider,
and then selects the first such entry; otherwise returns 1 and leaves the current provider as it was. -/
theorem C12_switch_name (cur : Nat) (name : Bytes) :
    ((setOpsByName cur name).2 = 0 ↔ ∃ i, i < providers.length ∧ opsName i = name) ∧
    ((setOpsByName cur name).2 = 0 → opsName (setOpsByName cur name).1 = name) ∧
    ((setOpsByName cur name).2 ≠ 0 → (setOpsByName cur name).1 = cur) :=
  switch_spec (·.1) [] name cur _ (by simp only [setOpsByName, jwtStrcmp_eq_zero_iff]; rfl) opsName fun _ => rfl

/-- **Switch by id** likewise. -/
theorem C12_switch_id (cur id : Nat) :
    ((setOpsById cur id).2 = 0 ↔ ∃ i, i < providers.length ∧ opsId i = id) ∧
    ((setOpsById cur id).2 = 0 → opsId (setOpsById cur id).1 = id) ∧
    ((setOpsById cur id).2 ≠ 0 → (setOpsById cur id).1 = cur) :=
  switch_spec (·.2) 0 id cur _ rfl opsId fun _ => rfl

/-- the compiled-in providers of this build, their ids, distinct names, and the initial one -/
theorem C12_table : providers.map (·.2) = [1, 2] ∧ (providers.map (·.1)).Nodup ∧ providerInit = 0 ∧
    opsName 0 = [111, 112, 101, 110, 115, 115, 108] ∧ opsName 1 = [103, 110, 117, 116, 108, 115] := by decide +kernel

/-- **`JWT_CRYPTO`**: unset or empty → the first provider; a provider's exact name → that one;
anything else → the first provider. -/
theorem C12_init (v : Option Bytes) :
    (v = none ∨ v = some [] → initOps v = 0) ∧
    (∀ n, v = some n → n ≠ [] → (∃ i, i < providers.length ∧ opsName i = n) → opsName (initOps v) = n) ∧
    (∀ n, v = some n → (¬ ∃ i, i < providers.length ∧ opsName i = n) → initOps v = 0) := by
  -- with a non-empty value `jwt_init` ends where the switch from the first provider does, refused or not
  have hsw : ∀ n, n ≠ [] → initOps (some n) = (setOpsByName 0 n).1 := by
    intro n hn
    cases n with
    | nil => exact absurd rfl hn
    | cons c cs => simp only [initOps, setOpsByName]; cases scanOps _ <;> rfl
  refine ⟨?_, ?_, ?_⟩
  · rintro (rfl | rfl) <;> rfl
  · rintro n rfl hne hex
    rw [hsw n hne]
    exact (C12_switch_name 0 n).2.1 ((C12_switch_name 0 n).1.2 hex)
  · rintro n rfl hnex
    by_cases hne : n = []
    · subst hne; rfl
    · rw [hsw n hne]
      exact (C12_switch_name 0 n).2.2 (mt (C12_switch_name 0 n).1.1 hnex)

/-- **Keys are provider-independent at load time** (generated fact): every compiled-in ops table
parses RSA, EC and OKP JWKs — and frees items — with the same functions. -/
theorem C12_keys : ∀ p ∈ providerJwkParsers, p = providerJwkParsers.head! :=
  -- the table mapped to itself and to copies of its head are the same list as they stand; `decide` would
  -- compare the strings character by character
  List.map_inj_left.1 rfl

/-- **The policy is provider-independent.** Two environments that differ only in the provider, whose
public-key verification answers agree on every query and which support the same algorithms, give
`jwt_checker_verify` the same result on every checker and token (return value and resulting state). -/
theorem C12_verify_parametric (e1 e2 : Env) (hjc : e1.jc = e2.jc) (hnow : e1.now = e2.now)
    (hh : e1.cr.hmac = e2.cr.hmac)
    (hv : ∀ k a m s, e1.cr.pkVerify e1.prov k a m s = e2.cr.pkVerify e2.prov k a m s)
    (hs : ∀ a, e1.prov.supports a = e2.prov.supports a) (ck : Checker) (tok : Option Bytes) :
    verify e1 ck tok = verify e2 ck tok := by
  have hsig : ∀ k a m s, verifySig e1 k a m s = verifySig e2 k a m s := by
    intro k a m s
    simp only [verifySig_eq, hh, hv, hs]
  have hjudge : ∀ cl p cfg, judge e1 cl p cfg = judge e2 cl p cfg := by
    intro cl p cfg
    simp only [judge, hnow, hsig]
  have hcore : ∀ c t, verifyCore e1 c t = verifyCore e2 c t := by
    intro c t
    simp only [verifyCore, hjc, hjudge]
  simp only [verify, hcore]

/-- the same for signing: what `jwt_builder_generate` returns depends on the provider only through
the primitive's answers -/
theorem C12_generate_parametric (e1 e2 : Env) (hjc : e1.jc = e2.jc) (hnow : e1.now = e2.now)
    (hh : e1.cr.hmac = e2.cr.hmac)
    (hp : ∀ k a m, e1.cr.pkSign e1.prov k a m = e2.cr.pkSign e2.prov k a m)
    (hs : ∀ a, e1.prov.supports a = e2.prov.supports a) (b : Builder) :
    generate e1 b = generate e2 b := by
  have hsign : ∀ k a m, sign e1 k a m = sign e2 k a m := by
    intro k a m
    simp only [sign_eq, hh, hp, hs]
  have henc : ∀ h c a k, encodeToken e1 h c a k = encodeToken e2 h c a k := by
    intro h c a k
    simp only [encodeToken, hjc, hsign]
  have hcore : ∀ c, generateCore e1 c = generateCore e2 c := by
    intro c
    simp only [generateCore, hnow, henc]
  simp only [generate, hcore]

/-! ### non-vacuity -/

/-- the digest and kind of key operation RFC 7518 §3.1 assigns to each algorithm (`by-key`: EdDSA's
digest is fixed by the curve of the key) -/
def rfcDigest : Alg → Option (String × String)
  | .hs256 => some ("sha256", "mac") | .hs384 => some ("sha384", "mac") | .hs512 => some ("sha512", "mac")
  | .rs256 => some ("sha256", "rsa") | .rs384 => some ("sha384", "rsa") | .rs512 => some ("sha512", "rsa")
  | .ps256 => some ("sha256", "pss") | .ps384 => some ("sha384", "pss") | .ps512 => some ("sha512", "pss")
  | .es256 => some ("sha256", "ec") | .es256k => some ("sha256", "ec") | .es384 => some ("sha384", "ec") | .es512 => some ("sha512", "ec")
  | .eddsa => some ("by-key", "eddsa")
  | .none | .inval => none

def allAlgs : List Alg := [.none, .hs256, .hs384, .hs512, .rs256, .rs384, .rs512, .es256, .es384, .es512, .ps256, .ps384, .ps512, .es256k, .eddsa, .inval]

/-- **Both providers select the same primitive for every algorithm, on the signing and on the verifying
side** (generated from the two `sign-verify.c`): each of the six entry points' `switch (jwt->alg)` maps
every algorithm it handles to the digest and the kind of key operation RFC 7518 prescribes, the
public-key entry points handle exactly the eleven public-key algorithms and the MAC entry points exactly
HS256/384/512 (in whatever order the cases are written). A digest swapped in one provider, or on one side only, fails here at build time. -/
theorem C12_digests :
    (∀ t ∈ [Generated.osslsignpemDigests, Generated.osslverifypemDigests, Generated.gtlssignpemDigests, Generated.gtlsverifypemDigests],
      (∀ r ∈ t, rfcDigest r.1 = some r.2) ∧
      ∀ a ∈ allAlgs, (a ∈ t.map (·.1)) = (a ∈ [Alg.rs256, .rs384, .rs512, .ps256, .ps384, .ps512, .es256, .es256k, .es384, .es512, .eddsa])) ∧
    (∀ t ∈ [Generated.osslsignhmacDigests, Generated.gtlssignhmacDigests],
      (∀ r ∈ t, rfcDigest r.1 = some r.2) ∧ ∀ a ∈ allAlgs, (a ∈ t.map (·.1)) = (a ∈ [Alg.hs256, .hs384, .hs512])) := by
  decide +kernel

example : setOpsByName 0 [103, 110, 117, 116, 108, 115] = (1, 0) := by decide +kernel            -- "gnutls"
example : setOpsByName 1 [103, 110, 117, 116, 108] = (1, 1) := by decide +kernel                 -- "gnutl": refused, stays
example : setOpsByName 1 [79, 112, 101, 110, 83, 83, 76] = (1, 1) := by decide +kernel           -- "OpenSSL": refused
example : setOpsById 0 2 = (1, 0) ∧ setOpsById 1 3 = (1, 1) ∧ setOpsById 1 0 = (1, 1) := by decide +kernel
example : initOps (some [103, 110, 117, 116, 108, 115]) = 1 ∧ initOps (some [120]) = 0 := by decide +kernel

/-- **The name comparison is the source's.**  `jwt_strcmp` as translated statement by statement from jwt-memory.c (every store
wrapped in the width of the variable's declared type) returns 0 exactly for equal strings of every length, and agrees with
the hand-written `jwtStrcmp` the provider table is searched with: a provider is selected by its exact name only -/
theorem C12_name_compare_is_source :
    (∀ a b : List Nat, StrCmpCode.IsOctets a → StrCmpCode.IsOctets b → (Generated.StrCmpCode.jwtStrcmp a b = 0 ↔ a = b)) ∧
    (∀ a b : Bytes, Generated.StrCmpCode.jwtStrcmp (a.map UInt8.toNat) (b.map UInt8.toNat) = 0 ↔ jwtStrcmp a b = 0) :=
  ⟨StrCmpCode.jwtStrcmp_zero_iff, StrCmpCode.translated_agrees_with_model⟩


end Jwt.Props.C12
