import Jwt.Lemmas.Policy
import Jwt.Lemmas.PipelineSig
import Jwt.Lemmas.StrCmpCode
/-!
# C01 — no token is accepted without a valid signature by the configured key

Cryptographic validity itself is the oracle `env.cr` (an arbitrary `Crypto`): the theorem says that
acceptance *is* a positive answer of that oracle — for the key in force, the algorithm named in
the header, over exactly the raw text of the first two segments — on either provider, for every
callback, with no assumption about the primitives or the JSON codec.
-/
namespace Jwt.Props.C01
open Jwt Jwt.Base64

/-- "the third segment is a valid signature under `k` and `a` over `msg`" -/
def SigValid (env : Env) (k : KeyItem) (a : Alg) (msg sigText : Bytes) : Prop :=
  strengthOk a k ∧
  ((a.isHmac = true ∧ sigText = uriEncode (env.cr.hmac a k.oct msg)) ∨
   (a.isPk = true ∧ ∃ sig, uriDecode sigText = some sig ∧ env.cr.pkVerify env.prov k a msg sig = true))

theorem verifySig_none (env : Env) (k : KeyItem) (a : Alg) (msg s : Bytes)
    (h : (verifySig env k a msg s).1 = none) : SigValid env k a msg s :=
  let ⟨hs, h⟩ := (verifySig_ok_iff env k a msg s).1 h
  ⟨hs, h.imp (fun ⟨hh, _, e⟩ => ⟨hh, e⟩) (fun ⟨hp, _, v⟩ => ⟨hp, v⟩)⟩

/-- **Soundness.** If `jwt_checker_verify` returns 0 and the configuration in force holds a key `k`,
then the token is `h.p.s` split at its first two dots, the header names the pinned algorithm `a`,
and `s` is a valid signature under `k` and `a` over the bytes `h.p` exactly as they stand in the
token. For HS* that means `s` is textually the base64url of the MAC; for the public-key
algorithms `s` base64url-decodes to a signature the provider's verification accepts. -/
theorem C01_sound (env : Env) (ck : Checker) (tok : Option Bytes) (h : (verify env ck tok).2 = 0) :
    ∃ t p, tok = some t ∧ parse env.jc t = .ok p ∧
      t = p.head ++ [46] ++ p.payload ++ [46] ++ p.sig ∧ (46 : UInt8) ∉ p.head ∧ (46 : UInt8) ∉ p.payload ∧
      ∀ k, (afterCb ck.cfg p).2.key = some k →
        p.alg = pinned (afterCb ck.cfg p).2 ∧
        SigValid env k p.alg (signingInput p.head p.payload) p.sig := by
  obtain ⟨t, p, rfl, hp, acc⟩ := (verify_ok_iff env ck tok).1 h
  obtain ⟨hsplit, hd1, hd2, _⟩ := (parse_ok env.jc t p).1 hp
  exact ⟨t, p, rfl, hp, hsplit, hd1, hd2, fun k hk =>
    ⟨(acc.key hk).2.2.1, verifySig_none env k p.alg _ p.sig (acc.key hk).2.2.2⟩⟩

/-- Anything that is rejected leaves a non-zero return value — there is no third outcome. -/
theorem C01_reject_or_accept (env : Env) (ck : Checker) (tok : Option Bytes) :
    (verify env ck tok).2 = 0 ∨ (verify env ck tok).2 = 1 := by
  rw [verify_eq]
  cases verifyExit env ck.cfg tok <;> simp [Checker.finish]

/-! ### non-vacuity: a concrete accepted token under a concrete oracle -/

def octKey : KeyItem := { id := 7, kty := .oct, alg := .hs256, bits := 256, isPrivate := true, oct := [1, 2, 3] }
/-- a toy primitive: the "MAC" of anything is the single byte 0x5A ("Wg" in base64url) -/
def toyEnv : Env :=
  { jc := { load := fun b => if b = [123, 125] then some (.obj [(N.alg, .str [72, 83, 50, 53, 54])]) else none, dump := fun _ => [] },
    cr := { hmac := fun _ _ _ => [0x5A], pkVerify := fun _ _ _ _ _ => false, pkSign := fun _ _ _ _ => none },
    prov := .openssl, now := 0 }
def toyChecker : Checker := { (Checker.mk { key := some octKey, alg := .none, claims := default } false none) with }
-- token "e30.e30.Wg": header and payload both decode to "{}", which the toy codec loads as {"alg":"HS256"}
example : (verify toyEnv toyChecker (some [101, 51, 48, 46, 101, 51, 48, 46, 87, 103])).2 = 0 := by decide +kernel
example : (verify toyEnv toyChecker (some [101, 51, 48, 46, 101, 51, 48, 46, 87, 119])).2 = 1 := by decide +kernel

/-- **`jwt_verify_sig` is the source's.** The model reports a signature failure exactly when the `jwt_verify_sig`
*generated* from `jwt.c`, fed with the model's quantities, writes its message or (public-key arm) the gate refused the key:
an HS* token fails when the key is not an oct key or the recomputed MAC text differs; an RS*/PS*/ES*/EdDSA token when the
gate refuses, the third segment does not decode, or the provider's verification fails; any other algorithm always. -/
theorem C01_verify_sig_is_source (env : Env) (k : KeyItem) (alg : Alg) (msg sigB64 : Bytes) :
    (verifySig env k alg msg sigB64).1.isSome =
      ((verifySigGen env k alg msg sigB64).2 || (algIsPk alg && (checkKeyBits alg k).isSome)) :=
  verifySig_generated env k alg msg sigB64


/-- **The MAC comparison is the source's.**  The HS* check compares the recomputed MAC's text with the token's through
`jwt_strcmp`; as translated from jwt-memory.c it returns 0 exactly when the two texts are equal, whatever their lengths
(in particular: not when they differ by a multiple of some power of two in length, or only beyond a common prefix) -/
theorem C01_mac_compare_is_source (mac sig : Bytes) :
    Generated.StrCmpCode.jwtStrcmp (mac.map UInt8.toNat) (sig.map UInt8.toNat) = 0 ↔ mac = sig := by
  rw [StrCmpCode.translated_agrees_with_model, jwtStrcmp_eq_zero_iff]


end Jwt.Props.C01
