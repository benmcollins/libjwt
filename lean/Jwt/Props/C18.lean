import Jwt.Conc
import Jwt.Generated.ConcFacts
/-!
# C18 — separate builders/checkers sharing one keyring are safe to use concurrently

What a theorem can carry here: (1) in the model every operation is a function of read-only shared
state and the caller's own object, hence **every interleaving** of any number of threads gives
each thread exactly the results — tokens and verdicts — of running its calls one after another;
(2) over facts *generated from the freshly built library* (its symbol table and sources): the only
writable static objects are the provider pointer, the provider tables and the allocator hooks, and
nothing assigns them except the documented setters — so a function-local `static` buffer or a lazily
initialised global on the sign/verify path changes a generated definition and breaks a theorem at
build time. Data-race freedom of the compiled code and of OpenSSL/GnuTLS internals on shared keys
is a runtime property: it is witnessed by ThreadSanitizer stress runs (suite `threads`), PARTIAL.
-/
namespace Jwt.Props.C18
open Jwt Jwt.Conc Jwt.Generated

variable {Obj Op Res Shared : Type}

theorem proj_cons_eq {α : Type} (t : Nat) (a : α) (l : List (Nat × α)) : proj t ((t, a) :: l) = a :: proj t l := by
  simp [proj]

theorem proj_cons_ne {α : Type} (t u : Nat) (a : α) (l : List (Nat × α)) (h : u ≠ t) : proj t ((u, a) :: l) = proj t l := by
  simp [proj, h]

/-- **Every interleaving equals the sequential runs.** For every schedule and every thread `t`: the
results thread `t` observes, and the final state of its object, are those of running `t`'s own
operations alone, in order, from its initial object. -/
theorem C18_interleave (sys : Sys Obj Op Res Shared) (sh : Shared) (objs : Nat → Obj) (sched : List (Nat × Op)) (t : Nat) :
    proj t (runSched sys sh objs sched).2 = (runThread sys sh (objs t) (proj t sched)).2 ∧
    (runSched sys sh objs sched).1 t = (runThread sys sh (objs t) (proj t sched)).1 := by
  induction sched generalizing objs with
  | nil => exact ⟨rfl, rfl⟩
  | cons e rest ih =>
    obtain ⟨u, op⟩ := e
    simp only [runSched]
    by_cases h : u = t
    · subst h
      have := ih (fun v => if v = u then (sys.step sh (objs u) op).1 else objs v)
      simp only [if_true] at this
      rw [proj_cons_eq, proj_cons_eq]
      simp only [runThread]
      exact ⟨by rw [this.1], this.2⟩
    · have := ih (fun v => if v = u then (sys.step sh (objs u) op).1 else objs v)
      have hne : t ≠ u := fun e => h e.symm
      simp only [hne, if_false] at this
      rw [proj_cons_ne t u _ _ h, proj_cons_ne t u _ _ h]
      exact this

/-- instance for libjwt's model: whatever the interleaving of generate/verify calls of N threads on
their own builders/checkers (sharing keys, provider and oracles read-only), each thread gets the
tokens and verdicts of its sequential run — in particular identical tokens for the deterministic
algorithms, and two schedules of the same per-thread programs agree thread by thread. -/
theorem C18_libjwt (objs : Nat → Builder × Checker) (s1 s2 : List (Nat × JOp)) (t : Nat)
    (hsame : proj t s1 = proj t s2) :
    proj t (runSched jwtSys () objs s1).2 = proj t (runSched jwtSys () objs s2).2 := by
  rw [(C18_interleave jwtSys () objs s1 t).1, (C18_interleave jwtSys () objs s2 t).1, hsame]

/-- **Footprint (generated).** The writable static objects of the library are exactly the provider
pointer, the provider list, the two provider tables and the two allocator hooks — no function-local
static, no cache — … -/
theorem C18_statics : mutableStatics.map (·.2.1) = ["jwt_ops", "jwt_ops_available", "pfn_free", "pfn_malloc", "jwt_gnutls_ops", "jwt_openssl_ops"] := rfl

/-- … assigned only by the documented setters (which the property tells threads not to call
concurrently), never through a provider table, and no key item is cast to a writable pointer. -/
theorem C18_writers :
    staticWriters = [("jwt_ops", ["jwt_init", "jwt_set_crypto_ops", "jwt_set_crypto_ops_t"]), ("pfn_free", ["jwt_set_alloc"]),
                     ("pfn_malloc", ["jwt_set_alloc"])] ∧
    opsTableWrites = 0 ∧ keyConstCasts = 0 := ⟨rfl, rfl, rfl⟩

/-! ### non-vacuity: a concrete interleaving of two threads -/
def toy : Sys Nat Nat Nat Unit := { step := fun _ o op => (o + op, o + op) }
/-- **Lookups and getters on a keyring do not write it** (generated from `jwks.c`): `jwks_find_bykid`,
`jwks_item_get`, the counters and every `jwks_item_*` getter contain no list mutation, no allocation or
free, no buffer write and no store through a pointer — so threads may share a keyring for lookups (the
usual callback pattern: pick the key by the token's `kid`). -/
theorem C18_queries_readonly : ∀ q ∈ keyringQueryWrites, q.2 = 0 := by decide

/-- **The library never reconfigures the process behind the application's back**: the only call to a
process-wide switch from inside library code is the one-time provider selection in the load-time
constructor `jwt_init`; no sign, verify, parse or keyring path calls `jwt_set_crypto_ops(_t)` or
`jwt_set_alloc`. -/
theorem C18_no_internal_reconfig : internalReconfigCalls = [("jwt_set_crypto_ops", "jwt_init")] := rfl

/-- **No call into a process-wide buffer**: the library sources call none of the C / OpenSSL functions that return or fill a
buffer shared by all threads (`strtok`, `localtime`, `strerror`, `rand`, `ERR_error_string(…, NULL)`, …) -- such a buffer
lives outside `libjwt.a`, so the symbol table (`C18_statics`) cannot see it and ThreadSanitizer does not see writes made inside
an uninstrumented library. -/
theorem C18_no_shared_buffer_calls : nonReentrantCalls = [] := rfl

example : (runSched toy () (fun _ => 0) [(0, 1), (1, 10), (0, 2), (1, 20)]).2 = [(0, 1), (1, 10), (0, 3), (1, 30)] := by decide
example : proj 1 (runSched toy () (fun _ => 0) [(0, 1), (1, 10), (0, 2), (1, 20)]).2 = (runThread toy () 0 [10, 20]).2 := by decide

end Jwt.Props.C18
