import Jwt.Lemmas.SetGet
import Jwt.Lemmas.PipelineSetGet
/-!
# C15 — header and claim set/get/delete behave as a typed map

Refinement of `setter`/`getter`/`deleter` (the code behind `jwt_builder_{header,claim}_{set,get,del}`
and `jwt_{header,claim}_{set,get,del}`) to the abstract map `abs : Name → Option Json`.
Explicit precondition where the code needs it: names and string values are valid UTF-8 (what
`json_string`/`json_object_set_new` accept); the excluded point is exercised by the
correspondence suite and reported as an observation (DESIGN §9.8).
-/
namespace Jwt.Props.C15
open Jwt

/-- **set, name present and not replacing**: EXIST, nothing changes (scalar and named JSON alike) -/
theorem C15_set_exist (ls : Bytes → Option Json) (w : Json) (r : SetReq) (n : Bytes) (hn : nameOk r.name = some n)
    (hex : (abs w n).isSome = true) (hr : r.replace = false) (hv : (reqValue ls r).isSome = true ∨ r.type ≠ .json ∧ r.type ≠ .str) :
    setter ls w r = (w, .exist) := by
  rcases hv with h | h
  · obtain ⟨v, hv⟩ := Option.isSome_iff_exists.1 h
    rw [setter_named_some ls w hn hv, hr, checkedSet_exist hex]
  · rw [setter_named ls w hn (absurd · h.2) (absurd · h.1), hr, checkedSet_exist hex]

/-- **set that goes through** (new name, or replace): NONE, the name now maps to the value, every
other name is untouched -/
theorem C15_set_ok (ls : Bytes → Option Json) (w : Json) (hw : IsObj w) (r : SetReq) (n : Bytes) (v : Json)
    (hn : nameOk r.name = some n) (hu : validUtf8 n = true) (hv : reqValue ls r = some v)
    (hok : (abs w n).isSome = false ∨ r.replace = true) :
    (setter ls w r).2 = .none ∧ abs (setter ls w r).1 n = some v ∧
    ∀ k, k ≠ n → abs (setter ls w r).1 k = abs w k := by
  have hw := isObj_isObject hw
  have : ((w.objGet n).isSome && !r.replace) = false := by
    rcases hok with h | h
    · rw [show (w.objGet n).isSome = false from h]; rfl
    · simp [h]
  rw [setter_store ls hw hn hu hv, this]
  exact ⟨rfl, by simp [abs, Json.objGet_objSet hw], fun k hk => by simp [abs, Json.objGet_objSet hw, hk]⟩

/-- **get**: the stored value when it has the requested type, NOEXIST when the name is absent, TYPE
otherwise (a JSON-typed get asks for an object or array) -/
theorem C15_get (w : Json) (t : VType) (n : Bytes) (hn : n ≠ []) :
    getter w t (some n) =
      match abs w n with
      | none => (.noexist, none)
      | some v =>
        match t, v with
        | .int, .int i => (.none, some (.int i))
        | .str, .str s => (.none, some (.str s))
        | .bool, .bool b => (.none, some (.bool b))
        | .json, v => if v.isContainer then (.none, some v) else (.type, none)
        | _, _ => (.type, none) := by
  unfold getter abs
  rw [nameOk_some hn]
  dsimp only
  cases w.objGet n with
  | none => cases t <;> rfl
  | some v => cases t <;> cases v <;> rfl

/-- a whole-object JSON get returns the whole map -/
theorem C15_get_all (w : Json) : getter w .json none = (.none, some w) ∧ getter w .json (some []) = (.none, some w) :=
  ⟨rfl, rfl⟩

/-- **delete** removes exactly the named member; with no (or an empty) name, everything -/
theorem C15_del (w : Json) (hw : IsObj w) (n : Bytes) (hn : n ≠ []) :
    (deleter w (some n)).2 = .none ∧ abs (deleter w (some n)).1 n = none ∧
    (∀ k, k ≠ n → abs (deleter w (some n)).1 k = abs w k) ∧
    (∀ k, abs (deleter w none).1 k = none) ∧ (∀ k, abs (deleter w (some [])).1 k = none) := by
  have hd : deleter w (some n) = (w.objDel n, .none) := by simp only [deleter, nameOk_some hn]
  rw [hd]
  exact ⟨rfl, by simp [abs, Json.objGet_objDel], fun k hk => by simp [abs, Json.objGet_objDel, hk],
    Json.objGet_objClear w, Json.objGet_objClear w⟩

/-- **refusals with no change**: scalar with an empty or absent name; JSON text that does not load
(malformed, a scalar, duplicate members); whole-object set of something that is not an object -/
theorem C15_invalid (ls : Bytes → Option Json) (w : Json) (r : SetReq) :
    (r.type ≠ .json → nameOk r.name = none → setter ls w r = (w, .invalid)) ∧
    (r.type = .json → r.jsonVal.bind ls = none → setter ls w r = (w, .invalid)) ∧
    (r.type = .json → nameOk r.name = none → ∀ doc, r.jsonVal.bind ls = some doc → doc.isObject = false →
      setter ls w r = (w, .invalid)) := by
  unfold setter
  refine ⟨fun ht hn => ?_, fun ht hl => ?_, fun ht hn doc hd hobj => ?_⟩
  · cases h : r.type <;> simp [hn, h] at ht ⊢
  · simp [ht, hl]
  · simp [ht, hd, hn, hobj]

/-! ### whole-object JSON set merges members -/

/-- **merge with replace**: every member of the document is set, the others stay -/
theorem C15_merge_replace (ls : Bytes → Option Json) (w : Json) (hw : IsObj w) (r : SetReq) (kvs : List (Bytes × Json))
    (ht : r.type = .json) (hn : nameOk r.name = none) (hd : r.jsonVal.bind ls = some (.obj kvs))
    (hnd : (kvs.map (·.1)).Nodup) (hr : r.replace = true) :
    (setter ls w r).2 = .none ∧
    ∀ k, abs (setter ls w r).1 k = match abs (.obj kvs) k with | some v => some v | none => abs w k := by
  have hw := isObj_isObject hw
  rw [setter_whole ls hw ht hn hd, hr]
  refine ⟨rfl, fun k => ?_⟩
  simp only [abs, if_true, Json.objGet_objUpdate hw kvs hnd]
  cases (Json.obj kvs).objGet k <;> rfl

/-- **merge without replace**: only members the map does not have yet are added -/
theorem C15_merge_missing (ls : Bytes → Option Json) (w : Json) (hw : IsObj w) (r : SetReq) (kvs : List (Bytes × Json))
    (ht : r.type = .json) (hn : nameOk r.name = none) (hd : r.jsonVal.bind ls = some (.obj kvs))
    (hnd : (kvs.map (·.1)).Nodup) (hr : r.replace = false) :
    (setter ls w r).2 = .none ∧
    ∀ k, abs (setter ls w r).1 k = match abs w k with | some v => some v | none => abs (.obj kvs) k := by
  have hw := isObj_isObject hw
  rw [setter_whole ls hw ht hn hd, hr]
  refine ⟨rfl, fun k => ?_⟩
  simp only [abs, Bool.false_eq_true, if_false, Json.objGet_objUpdateMissing hw]
  cases w.objGet k <;> rfl

/-! ### headers and claims stay JSON objects -/

/-- **Invariant**: whatever is set, the map stays a JSON object -/
theorem setter_isObj (ls : Bytes → Option Json) (w : Json) (hw : IsObj w) (r : SetReq) : IsObj (setter ls w r).1 :=
  Json.isObject_iff.1 ((setter_isObject ls w r).trans (isObj_isObject hw))

theorem deleter_isObj (w : Json) (hw : IsObj w) (n : Option Bytes) : IsObj (deleter w n).1 := by
  apply Json.isObject_iff.1
  unfold deleter
  split <;> simpa using isObj_isObject hw

/-! ### non-vacuity -/
def m1 : Json := .obj [([97], .int 1)]
example : IsObj m1 := ⟨_, rfl⟩
example : setter (fun _ => none) m1 { type := .int, name := some [97], intVal := 2 } = (m1, .exist) := by rfl
example : (setter (fun _ => none) m1 { type := .int, name := some [97], intVal := 2, replace := true }).1.objGet [97] = some (.int 2) := by rfl
example : (getter m1 .str (some [97])).1 = .type ∧ (getter m1 .int (some [98])).1 = .noexist := by decide
example : setter (fun _ => none) m1 { type := .bool, name := some [] } = (m1, .invalid) := by rfl

/-- **The typed getters are the source's.** `jwt_get_int`, `jwt_get_str`, `jwt_get_bool` are *generated* from
`jwt-setget.c`; fed with the model's quantities (is the name NULL / empty, is there such a member, has it the type asked
for) they return the code the model's `getter` returns. -/
theorem C15_getter_codes_are_source (which : Json) (name : Option Bytes) :
    ((getter which .int name).1.code =
      (Jwt.Generated.Pipeline.getInt (nameNull name) (nameEmpty name) ((name.bind which.objGet).isNone) (((name.bind which.objGet).map (isOfType .int)).getD false) 0).1) ∧
    ((getter which .str name).1.code =
      (Jwt.Generated.Pipeline.getStr (nameNull name) (nameEmpty name) ((name.bind which.objGet).isNone) (((name.bind which.objGet).map (isOfType .str)).getD false) false 0).1) ∧
    ((getter which .bool name).1.code =
      (Jwt.Generated.Pipeline.getBool (nameNull name) (nameEmpty name) ((name.bind which.objGet).isNone) (((name.bind which.objGet).map (isOfType .bool)).getD false) 0).1) :=
  getter_code_generated which name

/-- `jwt_obj_check` followed by the store, as generated: EXIST for a member that is there (whatever its value) when
`replace` is off, deletion first when it is on, INVALID when the value cannot be stored -- the code of the model's `checkedSet` -/
theorem C15_checked_set_is_source (which : Json) (name : Bytes) (v : Option Json) (replace : Bool) :
    (checkedSet which name v replace).2.code =
      (Jwt.Generated.Pipeline.setInt false false ((Jwt.Generated.Pipeline.objCheck (which.objGet name).isNone (!replace)).1 = 0)
        (match v with | none => true | some _ => !(which.isObject && validUtf8 name))
        (if (Jwt.Generated.Pipeline.objCheck (which.objGet name).isNone (!replace)).1 = 0 then 0 else (Jwt.Generated.Pipeline.objCheck (which.objGet name).isNone (!replace)).1)).1 :=
  checkedSet_generated which name v replace

end Jwt.Props.C15
