import Jwt.Lemmas.Builder
import Jwt.Generated.JsonCalls
import Jwt.Props.C11
import Jwt.Lemmas.SetGet
import Jwt.Lemmas.PipelineBuilder
import Jwt.Lemmas.PipelineConfig
import Jwt.Lemmas.PipelineClosed
/-!
# C10 — generated tokens are well-formed and say exactly what the builder was told
-/
namespace Jwt.Props.C10
open Jwt Jwt.Base64 Jwt.Generated Jwt.Props.C15

/-- **Shape.** Every string returned by `jwt_builder_generate` is
`b64url(dump H) . b64url(dump P) . S` where `H`, `P` are the per-token header and claims objects,
the first two parts are non-empty and over the URL alphabet without padding (so they contain no
dot and the token splits back uniquely), and `S` is empty for `none`, else the unpadded base64url
of the raw signature the primitive returned. -/
theorem C10_shape (env : Env) (b : Builder) (t : Bytes) (h : (generate env b).2 = some t) :
    ∃ H P, let r := genAfterCb b.cfg env.now
      headSetup r.2.1 (usedAlg r.2.2.2) = .ok H ∧ P = r.2.2.1 ∧
      env.jc.dump H ≠ [] ∧ env.jc.dump P ≠ [] ∧
      (∀ c ∈ uriEncode (env.jc.dump H), Props.C11.isUrlChar c) ∧ (∀ c ∈ uriEncode (env.jc.dump P), Props.C11.isUrlChar c) ∧
      ((usedAlg r.2.2.2 = .none ∧ t = signingInput (uriEncode (env.jc.dump H)) (uriEncode (env.jc.dump P)) ++ [46]) ∨
       (usedAlg r.2.2.2 ≠ .none ∧ ∃ k sig tr, r.2.2.2.key = some k ∧
          sign env k (usedAlg r.2.2.2) (signingInput (uriEncode (env.jc.dump H)) (uriEncode (env.jc.dump P))) = (.ok sig, tr) ∧
          t = signingInput (uriEncode (env.jc.dump H)) (uriEncode (env.jc.dump P)) ++ [46] ++ uriEncode sig)) := by
  obtain ⟨H, tr, _, _, hh, he⟩ := generate_ok env b t h
  obtain ⟨h1, h2, hcase⟩ := encodeToken_ok env H _ _ _ t tr he
  have ne {x : Bytes} (h : uriEncodeRet x ≠ 0) : x ≠ [] := fun e => h (e ▸ rfl)
  refine ⟨H, _, hh, rfl, ne h1, ne h2, Props.C11.C11_alphabet _, Props.C11.C11_alphabet _, ?_⟩
  rcases hcase with ⟨ha, _, htok⟩ | ⟨ha, k, sig, hk, hs, htok⟩
  · exact Or.inl ⟨ha, htok⟩
  · exact Or.inr ⟨ha, k, sig, tr, hk, hs, htok⟩

/-- the names in the generated `jwt_alg_str` table are ASCII -/
theorem algStrTable_validUtf8 : ∀ e ∈ algStrTable, validUtf8 e.2 = true := by decide +kernel

theorem algStr_validUtf8 {a : Alg} {s : Bytes} (h : algStr a = some s) : validUtf8 s = true := by
  obtain ⟨e, he, rfl⟩ := Option.map_eq_some_iff.1 h
  exact algStrTable_validUtf8 e (List.mem_of_find?_eq_some he)

/-- the default `typ` goes in on a signed token that has none; the only code besides NONE is EXIST, which
`jwt_head_setup` lets pass -/
theorem typSet_spec {h : Json} (hw : h.isObject = true) (alg : Alg) :
    (typSet h alg).1.isObject = true ∧
    (∀ k, (typSet h alg).1.objGet k =
      if (alg ≠ .none ∧ (h.objGet N.typ).isSome = false) ∧ k = N.typ then some (.str N.JWT) else h.objGet k) ∧
    ((typSet h alg).2 = .none ∨ (typSet h alg).2 = .exist) := by
  unfold typSet
  rw [setter_store _ hw (n := N.typ) (v := .str N.JWT) rfl rfl rfl]
  by_cases ha : alg = .none <;> cases (h.objGet N.typ).isSome <;> simp [ha, hw, Json.objGet_objSet hw]

/-- `alg` is stored over whatever is there; an algorithm without a name is `json_string(NULL)` -/
theorem algSet_eq {h : Json} (hw : h.isObject = true) (alg : Alg) :
    algSet h alg = match algStr alg with
      | none => (h, .invalid)
      | some name => (h.objSet N.alg (.str name), .none) := by
  unfold algSet
  cases hname : algStr alg with
  | none => rfl
  | some name =>
    rw [setter_store _ hw (n := N.alg) (v := .str name) rfl rfl (by simp [reqValue, algStr_validUtf8 hname])]
    simp

/-- **Header.** `jwt_head_setup` on the per-token headers `h` (an object): `alg` is forced to the
name of the algorithm actually used — over whatever the application or the callback put there —,
`typ` becomes `"JWT"` on signed tokens unless `h` already has one (of any type), every other member
is untouched. It fails for an algorithm that has no name. -/
theorem C10_header (h : Json) (hobj : IsObj h) (alg : Alg) (H : Json) (hs : headSetup h alg = .ok H) :
    (∃ name, algStr alg = some name ∧ abs H N.alg = some (.str name)) ∧
    (abs H N.typ = if alg ≠ .none ∧ (abs h N.typ).isSome = false then some (.str N.JWT) else abs h N.typ) ∧
    (∀ k, k ≠ N.alg → k ≠ N.typ → abs H k = abs h k) := by
  obtain ⟨hw1, hget, hc⟩ := typSet_spec (isObj_isObject hobj) alg
  -- `jwt_head_setup` is the two sets, and the code of the first never stops it
  have hs : (if (algSet (typSet h alg).1 alg).2 ≠ .none then .error Err.encode else .ok (algSet (typSet h alg).1 alg).1) =
      Except.ok H := (if_neg fun hc' => hc.elim hc'.1 hc'.2).symm.trans hs
  rw [algSet_eq hw1] at hs
  split at hs
  · cases hs
  next name hname =>
    cases hs
    simp only [abs, Json.objGet_objSet hw1, hget]
    exact ⟨⟨name, hname, by simp⟩, by simp [show N.typ ≠ N.alg by decide], fun k k1 k2 => by simp [k1, k2]⟩

/-- the optional integer overwrites of `baseClaims` -/
theorem optSet_get {w : Json} (hw : w.isObject = true) {n : Bytes} (hn : n ≠ []) (hu : validUtf8 n = true)
    (c : Bool) (v : Int) (k : Bytes) :
    (if c then setIntClaim w n v else w).objGet k = if c = true ∧ k = n then some (.int v) else w.objGet k := by
  unfold setIntClaim
  rw [setter_store _ hw (nameOk_some hn) hu rfl]
  cases c <;> simp [Json.objGet_objSet hw]

theorem optSet_isObject (w : Json) (n : Bytes) (c : Bool) (v : Int) :
    (if c then setIntClaim w n v else w).isObject = w.isObject := by
  cases c <;> simp [setIntClaim, setter_isObject]

/-- **Claims before the callback**: the builder's claims, with `iat = now` unless disabled,
`nbf = now + offset` and `exp = now + offset` when enabled — these overriding same-named builder
claims — and nothing else changed. -/
theorem C10_claims (b : BuilderCfg) (hobj : IsObj b.payload) (now : Int) :
    (abs (baseClaims b now) N.iat = if b.mask.iat then some (.int now) else abs b.payload N.iat) ∧
    (abs (baseClaims b now) N.nbf = if b.mask.nbf then some (.int (now + b.nbfOff)) else abs b.payload N.nbf) ∧
    (abs (baseClaims b now) N.exp = if b.mask.exp then some (.int (now + b.expOff)) else abs b.payload N.exp) ∧
    (∀ k, k ≠ N.iat → k ≠ N.nbf → k ≠ N.exp → abs (baseClaims b now) k = abs b.payload k) := by
  have hw := isObj_isObject hobj
  have get : ∀ k, abs (baseClaims b now) k =
      if b.mask.exp = true ∧ k = N.exp then some (.int (now + b.expOff))
      else if b.mask.nbf = true ∧ k = N.nbf then some (.int (now + b.nbfOff))
      else if b.mask.iat = true ∧ k = N.iat then some (.int now) else b.payload.objGet k := by
    intro k
    unfold baseClaims abs
    rw [optSet_get (by simp only [optSet_isObject, hw]) (by decide) (by decide),
      optSet_get (by simp only [optSet_isObject, hw]) (by decide) (by decide), optSet_get hw (by decide) (by decide)]
  have d1 : N.iat ≠ N.nbf := by decide
  have d2 : N.iat ≠ N.exp := by decide
  have d3 : N.nbf ≠ N.exp := by decide
  refine ⟨?_, ?_, ?_, fun k k1 k2 k3 => ?_⟩ <;> rw [get]
  · simp [d1, d2, abs]
  · simp [d3, d1.symm, abs]
  · simp [d2.symm, d3.symm, abs]
  · simp [k1, k2, k3, abs]

/-- **Offsets**: `time_offset(claim, s)` switches the claim on iff `s > 0` (generated `__DISABLE = 0`);
`enable_iat` does what it says and returns the previous setting. -/
theorem C10_offsets (b : Builder) (s : Int) :
    ((b.timeOffset .exp s).1.cfg.mask.exp = true ↔ s > 0) ∧ (b.timeOffset .exp s).1.cfg.expOff = s ∧
    ((b.timeOffset .nbf s).1.cfg.mask.nbf = true ↔ s > 0) ∧ (b.timeOffset .nbf s).1.cfg.nbfOff = s := by
  have on : (!decide (s ≤ builderDisable)) = true ↔ s > 0 := by
    have hd : builderDisable = 0 := rfl
    simp [hd]
  exact ⟨on, rfl, on, rfl⟩

/-- **Isolation**: generating — succeeding or failing, with any callback — leaves the builder's
configuration (headers, claims, key, algorithm, switches, offsets, callback) exactly as it was. -/
theorem C10_isolated (env : Env) (b : Builder) : (generate env b).1.cfg = b.cfg := by
  rw [generate_eq]
  cases generateCore env b.cfg with
  | mk ex rest => cases ex <;> rfl

/-- **Signing with a public-only key is refused**, by `setkey` and when the callback selects it. -/
theorem C10_private (env : Env) (b : Builder) (alg : Alg) (k : KeyItem) (hk : k.isPrivate = false) :
    (b.setkey alg (some k)).2 = 1 ∧
    ((genAfterCb b.cfg env.now).2.2.2.key = some k → (generate env b).2 = none) := by
  have hc (a : Alg) : setkeyCheck .builder a (some k) = some .setkeyNeedsPrivate := by simp [setkeyCheck, hk]
  refine ⟨by simp [Builder.setkey, hc], fun hsel => ?_⟩
  cases hg : (generate env b).2 with
  | none => rfl
  | some t =>
    obtain ⟨_, _, _, hs, _⟩ := generate_ok env b t hg
    rw [hsel, hc] at hs
    cases hs

/-! ### non-vacuity -/
example : IsObj Builder.new.cfg.payload ∧ IsObj Builder.new.cfg.headers := ⟨⟨_, rfl⟩, ⟨_, rfl⟩⟩
example : Builder.new.cfg.mask = { iat := true } := by decide
example : abs (baseClaims Builder.new.cfg 1234) N.iat = some (.int 1234) := by rfl
example : ∃ H, headSetup (.obj [(N.alg, .int 3)]) .hs256 = .ok H ∧ abs H N.alg = some (.str [72, 83, 50, 53, 54]) ∧
    abs H N.typ = some (.str N.JWT) := ⟨_, by rfl, by rfl, by rfl⟩

/-- **What the JSON oracle stands for** (generated from the library sources): the only places where libjwt turns
text into a JSON tree or back, with the flags it passes. Token header and payload are printed by `write_js` with
`JSON_SORT_KEYS | JSON_COMPACT` and nothing else (no precision, no ASCII escaping, no embedding), token segments
are parsed with flags `0` (objects only, duplicates allowed by jansson's default, no NUL escapes), JWKS text with
`JSON_DECODE_ANY`, JSON-typed sets with `JSON_REJECT_DUPLICATES`, JSON-typed gets with sorted keys and the
caller's choice of compact or 4-space indentation. The model's `JsonCodec` and the harness's `jsonlib.py` are
written for exactly this table; a flag added or dropped fails here at build time. -/
theorem C10_json_calls :
    Generated.jsonCalls = [("jwks.c", "__jwks_load_strn", "json_loadb", "JSON_DECODE_ANY"),
      ("jwks.c", "jwks_load_fromfile", "json_load_file", "JSON_DECODE_ANY"),
      ("jwks.c", "jwks_load_fromfp", "json_loadf", "JSON_DECODE_ANY"),
      ("jwt-encode.c", "write_js", "json_dumps", "JSON_SORT_KEYS|JSON_COMPACT"),
      ("jwt-setget.c", "jwt_get_json", "json_dumps", "var:JSON_COMPACT|JSON_INDENT(4)|JSON_SORT_KEYS"),
      ("jwt-setget.c", "jwt_set_json", "json_loads", "var:JSON_REJECT_DUPLICATES"),
      ("jwt-verify.c", "jwt_base64uri_decode_to_json", "json_loads", "0")] := rfl

/-- **`jwt_builder_generate` and `jwt_encode` are the source's.** The order of the tests of `jwt_builder_generate`,
`jwt_head_setup` and `jwt_encode` is *generated* from `jwt-common.c` / `jwt-encode.c`
(`Jwt/Generated/Pipeline.lean`). The model returns a token exactly when the generated `jwt_builder_generate`, fed with
the model's quantities, returns non-NULL; a token comes out of the model's `encodeToken` exactly when the generated
`jwt_encode` returns 0; `jwt_head_setup` yields headers exactly when the generated one returns 0. -/
theorem C10_generate_is_source (env : Env) (b : Builder) :
    ((generate env b).2.isSome ↔ (builderGenerateGen env b.cfg).1 ≠ 0) :=
  (builderGenerate_generated env b).1

theorem C10_encode_is_source (env : Env) (headers claims : Json) (alg : Alg) (key : Option KeyItem) (signRet : Nat) (hs : signRet ≠ 0) :
    (∃ t, (encodeToken env headers claims alg key).1 = .ok t) ↔ (encodeGen env headers claims alg key signRet).1 = 0 :=
  encode_generated env headers claims alg key signRet hs

theorem C10_head_setup_is_source (headers : Json) (alg : Alg) (x : Bool) :
    ((∃ h, headSetup headers alg = .ok h) ↔
      (Jwt.Generated.Pipeline.headSetup (alg ≠ .none) (if alg ≠ .none then (typSet headers alg).2 ≠ .none else x) ((typSet headers alg).2 ≠ .exist)
        ((algSet (typSet headers alg).1 alg).2 ≠ .none)).1 = 0) :=
  (headSetup_generated headers alg x).1

-- in the generated `jwt_encode`, an unsigned token never reaches `jwt_sign`; a signed one depends on its outcome
example : (Jwt.Generated.Pipeline.encode false false false false false false true true 7 false false).1 = 0 := by decide
example : (Jwt.Generated.Pipeline.encode false false false false false false false true 7 false false) = (7, true) := by decide

/-- `jwt_builder_time_offset` as generated from the source stores the offset as passed (any size) and switches the claim on
exactly when it is positive -/
theorem C10_offset_is_source (b : Builder) (c : ClaimId) (secs : Int) :
    let r := Jwt.Generated.Pipeline.timeSpan false (c = .exp) (c = .nbf) (secs ≤ Jwt.Generated.builderDisable)
    (b.timeOffset c secs).2 = r.1 ∧ (r.2.2.1 = true → (b.timeOffset c secs).1.cfg.expOff = secs) ∧ (r.2.2.2.1 = true → (b.timeOffset c secs).1.cfg.nbfOff = secs) :=
  have g := builder_timeOffset_generated b c secs
  ⟨g.1, fun h => (g.2.1 h).1, fun h => (g.2.2 h).1⟩

/-- the generated `jwt_encode` returns 0 exactly when header and payload were serialised and encoded, the buffers
allocated and -- unless the algorithm is none, where nothing is signed -- `jwt_sign` and the encoding of its result
succeeded (all combinations, kernel evaluation) -/
theorem C10_encode_closed_is_source : ∀ a b c d e f g h i j : Bool,
    (Jwt.Generated.Pipeline.encode a b c d e f g h 1 i j).1 = (if !a && !b && !c && !d && !e && !f && (g || (!h && !i && !j)) then 0 else 1) :=
  fun a b c d e f g h i j => by rw [(Jwt.Generated.Pipeline.encode_closed a b c d e f g h i j 1).1, ite_self]

end Jwt.Props.C10
