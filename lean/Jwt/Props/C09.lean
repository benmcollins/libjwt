import Jwt.Lemmas.Policy
import Jwt.Generated.DispatchTables
import Jwt.Props.C01
import Jwt.Lemmas.Builder
import Jwt.Lemmas.PipelineSig
/-!
# C09 — key-strength floor for signing and verification
-/
namespace Jwt.Props.C09
open Jwt

/-- **The floor, as a table** (for every `bits : Nat`): the gate passes exactly for
HS256/384/512 with an oct key of ≥ 256/384/512 bits; RS*/PS* with an RSA key of ≥ 2048 bits;
ES256/ES256K with an EC key of exactly 256, ES384 of 384, ES512 of 521 bits; EdDSA with an OKP key
of 256 or 456 bits. -/
theorem C09_gate (a : Alg) (k : KeyItem) :
    (checkHmac a k = none ↔ a.isHmac = true ∧ strengthOk a k) ∧
    (checkKeyBits a k = none ↔ a.isPk = true ∧ strengthOk a k) :=
  ⟨checkHmac_none_iff a k, checkKeyBits_none_iff a k⟩

/-- **No path to a primitive goes round the gate** (generated from `jwt_sign`, `jwt_verify_sig` and
`_verify_sha_hmac` of `jwt.c`): signing calls `__check_hmac` before `sign_sha_hmac` for HS256/384/512 and
`__check_key_bits` before the provider's `sign_sha_pem` for the eleven public-key algorithms, leaving the case
when the gate refuses; verification calls `__check_key_bits` before decoding and handing the signature to
the provider's `verify_sha_pem`, and for HS* tests the key type and recomputes the MAC through `jwt_sign`
(which carries the HMAC gate) — never through `sign_sha_hmac` directly. Every algorithm with a gate is
dispatched. -/
theorem C09_dispatch :
    (∀ r ∈ Generated.signDispatch,
      (r.1.isHmac = true → r.2 = ("__check_hmac", "sign_sha_hmac", true)) ∧
      (r.1.isPk = true → r.2 = ("__check_key_bits", "jwt_ops->sign_sha_pem", true)) ∧ (r.1.isHmac = true ∨ r.1.isPk = true)) ∧
    (∀ r ∈ Generated.verifyDispatch,
      (r.1.isHmac = true → r.2.2.1 = "_verify_sha_hmac") ∧
      (r.1.isPk = true → r.2 = ("__check_key_bits", "jwt_ops->verify_sha_pem", true)) ∧ (r.1.isHmac = true ∨ r.1.isPk = true)) ∧
    Generated.verifyHmacVia = "jwt_sign" ∧ Generated.verifyHmacKtyGuard = true ∧
    (∀ a ∈ [Alg.hs256, .hs384, .hs512, .rs256, .rs384, .rs512, .ps256, .ps384, .ps512, .es256, .es256k, .es384, .es512, .eddsa],
      a ∈ Generated.signDispatch.map (·.1) ∧ a ∈ Generated.verifyDispatch.map (·.1)) := by
  decide +kernel

/-- **The floor is the one in the source** (generated from `__check_hmac` / `__check_key_bits` of `jwt.c`):
the rule every C09 theorem is stated with, `strengthOk`, holds for an algorithm and a key exactly when the
size test written in that algorithm's `case` lets `key->bits` through and the key has the type the case
passes to `__check_key_type`. -/
theorem C09_floor_is_source (a : Alg) (k : KeyItem) :
    strengthOk a k ↔ (Generated.gateSize a k.bits ∧ Generated.gateType a = some k.kty) :=
  strengthOk_iff_generated a k

/-- **No primitive is reached below the floor**: every call verification makes into HMAC or the
provider's public-key verification is for a (key, algorithm) pair that satisfies the rule. -/
theorem C09_verify_calls (env : Env) (c : CheckerCfg) (tok : Bytes) :
    ∀ call ∈ (verifyCore env c tok).2, ∃ a k, (call = .hmac a k ∨ call = .pkVerify a k) ∧ strengthOk a k := by
  intro call hc
  obtain ⟨p, k, _, _, h, hs⟩ := verifyCore_trace env c tok call hc
  exact ⟨p.alg, k, h, hs⟩

/-- **Verification never succeeds below the floor**: acceptance with a key implies the rule. -/
theorem C09_verify_floor (env : Env) (ck : Checker) (tok : Option Bytes) (h : (verify env ck tok).2 = 0) :
    ∃ t p, tok = some t ∧ parse env.jc t = .ok p ∧
      ∀ k, (afterCb ck.cfg p).2.key = some k → strengthOk p.alg k := by
  obtain ⟨t, p, ht, hp, _, _, _, hall⟩ := Props.C01.C01_sound env ck tok h
  exact ⟨t, p, ht, hp, fun k hk => (hall k hk).2.1⟩

/-- **The gate is live**: at or above the floor it lets the call through (so the theorems above
are not satisfied by rejecting everything). -/
theorem C09_live (a : Alg) (k : KeyItem) (h : strengthOk a k) :
    (a.isHmac = true → checkHmac a k = none) ∧ (a.isPk = true → checkKeyBits a k = none) :=
  ⟨fun ha => (checkHmac_none_iff a k).2 ⟨ha, h⟩, fun ha => (checkKeyBits_none_iff a k).2 ⟨ha, h⟩⟩

/-- an oct key of `n` bytes passes the HS256 gate iff `n ≥ 32` (with `bits = 8·n` as import sets it) -/
theorem C09_hs256_bytes (k : KeyItem) (n : Nat) (hk : k.kty = .oct) (hb : k.bits = 8 * n) :
    checkHmac .hs256 k = none ↔ n ≥ 32 := by
  rw [checkHmac_none_iff]; simp [strengthOk, Alg.isHmac, hk, hb]; omega

/-- **Signing never succeeds below the floor**: a token comes out only if the key in force satisfies
the rule for the algorithm used; and every primitive call `generate` makes is for such a pair. -/
theorem C09_sign_floor (env : Env) (b : Builder) (t : Bytes) (h : (generate env b).2 = some t) :
    ∀ k, (genAfterCb b.cfg env.now).2.2.2.key = some k → usedAlg (genAfterCb b.cfg env.now).2.2.2 ≠ .none →
      strengthOk (usedAlg (genAfterCb b.cfg env.now).2.2.2) k := by
  intro k hk hne
  obtain ⟨H, tr, _, _, _, he⟩ := generate_ok env b t h
  obtain ⟨_, _, hcase⟩ := encodeToken_ok env H _ _ _ t tr he
  rcases hcase with ⟨hn, _⟩ | ⟨_, k', sig, hk', hs, _⟩
  · exact absurd hn hne
  · rw [hk] at hk'; cases hk'
    exact (sign_ok env k _ _ sig tr hs).1

theorem C09_sign_gate (env : Env) (k : KeyItem) (a : Alg) (msg : Bytes) (h : ¬ strengthOk a k) :
    ∃ e, sign env k a msg = (.error e, []) :=
  sign_below env k a msg h

/-! ### non-vacuity: both sides of each boundary -/
def oct (n : Nat) : KeyItem := { id := 1, kty := .oct, alg := .none, bits := 8 * n, isPrivate := true, oct := List.replicate n 7 }
example : checkHmac .hs256 (oct 31) = some .keyTooShort ∧ checkHmac .hs256 (oct 32) = none := by decide
example : checkHmac .hs512 (oct 63) = some .keyTooShort ∧ checkHmac .hs512 (oct 64) = none := by decide
def rsa (b : Nat) : KeyItem := { id := 2, kty := .rsa, alg := .none, bits := b, isPrivate := false, oct := [] }
example : checkKeyBits .rs256 (rsa 2047) = some .keyTooShort ∧ checkKeyBits .ps512 (rsa 2048) = none := by decide
def ec (b : Nat) : KeyItem := { id := 3, kty := .ec, alg := .none, bits := b, isPrivate := false, oct := [] }
example : checkKeyBits .es256 (ec 384) = some .keyTooShort ∧ checkKeyBits .es512 (ec 521) = none ∧
    checkKeyBits .es512 (ec 512) = some .keyTooShort := by decide
example : checkKeyBits .es256 (rsa 256) = some .keyType ∧ checkHmac .hs256 (rsa 2048) = some .keyType := by decide

/-- **The gate comes first, in the code as written.** In the `jwt_sign` *generated* from `jwt.c` (all combinations of its
tests, kernel evaluation) both arms ask the size-and-type gate before anything else, and a refusal ends the call with 1
before the primitive is touched; a signature comes out of the model exactly when the generated code returns 0. -/
theorem C09_gate_first_is_source :
    (∀ h p g f : Bool, (h || p) = true → g = true → Jwt.Generated.Pipeline.sign h p g f = (1, false)) ∧
    (∀ (env : Env) (k : KeyItem) (alg : Alg) (msg : Bytes), (∃ s, (sign env k alg msg).1 = .ok s) ↔ (signGen env k alg msg).1 = 0) :=
  ⟨fun h p g f hp hg => (sign_closed h p g f).2 hp hg, sign_generated⟩

end Jwt.Props.C09
