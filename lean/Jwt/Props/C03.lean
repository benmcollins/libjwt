import Jwt.Lemmas.Policy
import Jwt.Props.C02
import Jwt.Props.C10
/-!
# C03 — unsigned tokens pass only when neither key nor algorithm is configured (checker side)

The builder clauses (`C03_builder_*`) are below, over the builder model.
-/
namespace Jwt.Props.C03
open Jwt

/-- A checker that has a key — from setkey or chosen by its callback — never accepts a token whose
signature segment is empty or whose header alg is `none`. -/
theorem C03_checker_key (env : Env) (ck : Checker) (tok : Option Bytes) (h : (verify env ck tok).2 = 0) :
    ∃ t p, tok = some t ∧ parse env.jc t = .ok p ∧
      ((afterCb ck.cfg p).2.key.isSome → p.sig ≠ [] ∧ p.alg ≠ .none) := by
  obtain ⟨t, p, rfl, hp, acc⟩ := (verify_ok_iff env ck tok).1 h
  refine ⟨t, p, rfl, hp, fun hk => ?_⟩
  obtain ⟨k, hkey⟩ := Option.isSome_iff_exists.1 hk
  exact ⟨fun he => (acc.key hkey).1 (by rw [he]; rfl), (acc.key hkey).2.1⟩

/-- A checker without a key accepts only tokens whose header `alg` is exactly the four bytes
`none`, whose third segment is empty, and only when no algorithm is configured either. -/
theorem C03_checker_nokey (env : Env) (ck : Checker) (tok : Option Bytes) (h : (verify env ck tok).2 = 0) :
    ∃ t p, tok = some t ∧ parse env.jc t = .ok p ∧
      ((afterCb ck.cfg p).2.key = none →
        p.sig = [] ∧ (afterCb ck.cfg p).2.alg = .none ∧ p.headers.objGet N.alg = some (.str N.none)) := by
  obtain ⟨t, p, rfl, hp, acc⟩ := (verify_ok_iff env ck tok).1 h
  refine ⟨t, p, rfl, hp, fun hk => ?_⟩
  obtain ⟨hn, hj, ha⟩ := (configPost_nokey _ _ _ hk).1 acc.post
  obtain ⟨s, hs, hname, _⟩ := (parseHeadAlg_ok _ _).1 ((parse_ok env.jc t p).1 hp).2.2.2.2.2
  refine ⟨List.eq_nil_of_length_eq_zero hn, ha, ?_⟩
  rw [hj, algStr_none] at hname
  cases hname
  exact hs

/-- **Builder with a key** — given by setkey or by its callback, with or without an explicit
algorithm: `generate` either fails or returns a token whose header `alg` names an algorithm other
than `none` (the pinned one) and whose third segment is the base64url of the signature the primitive
returned (non-empty whenever that signature is). It never falls back to an unsigned token. -/
theorem C03_builder_key (env : Env) (b : Builder) (t : Bytes) (k : KeyItem) (h : (generate env b).2 = some t)
    (hk : (genAfterCb b.cfg env.now).2.2.2.key = some k) :
    usedAlg (genAfterCb b.cfg env.now).2.2.2 ≠ .none ∧
    usedAlg (genAfterCb b.cfg env.now).2.2.2 = pinned (genAfterCb b.cfg env.now).2.2.2 ∧
    ∃ H sig tr, headSetup (genAfterCb b.cfg env.now).2.1 (usedAlg (genAfterCb b.cfg env.now).2.2.2) = .ok H ∧
      sign env k (usedAlg (genAfterCb b.cfg env.now).2.2.2)
        (signingInput (Base64.uriEncode (env.jc.dump H)) (Base64.uriEncode (env.jc.dump (genAfterCb b.cfg env.now).2.2.1))) = (.ok sig, tr) ∧
      t = signingInput (Base64.uriEncode (env.jc.dump H)) (Base64.uriEncode (env.jc.dump (genAfterCb b.cfg env.now).2.2.1)) ++ [46] ++ Base64.uriEncode sig := by
  obtain ⟨_, _, _, hadm, _⟩ := generate_ok env b t h
  -- a key is admitted only with an algorithm, its own if need be
  have hne : usedAlg (genAfterCb b.cfg env.now).2.2.2 ≠ .none := by
    intro e
    rw [e, hk] at hadm
    unfold usedAlg at e
    rw [hk] at e
    split at e
    · exact Props.C02.setkeyCheck_none_alg hadm e
    · contradiction
  refine ⟨hne, usedAlg_eq_pinned _, ?_⟩
  obtain ⟨H, P, hH, hP, _, _, _, _, hcase⟩ := Props.C10.C10_shape env b t h
  subst hP
  rcases hcase with ⟨hn, _⟩ | ⟨_, k', sig, tr', hk', hs, ht⟩
  · exact absurd hn hne
  · rw [hk] at hk'; cases hk'
    exact ⟨H, sig, tr', hH, hs, ht⟩

/-- **Builder without a key**: the only tokens it emits are `alg: none` tokens ending in an empty
third segment. -/
theorem C03_builder_nokey (env : Env) (b : Builder) (t : Bytes) (h : (generate env b).2 = some t)
    (hk : (genAfterCb b.cfg env.now).2.2.2.key = none) :
    usedAlg (genAfterCb b.cfg env.now).2.2.2 = .none ∧
    ∃ H, headSetup (genAfterCb b.cfg env.now).2.1 .none = .ok H ∧
      t = signingInput (Base64.uriEncode (env.jc.dump H)) (Base64.uriEncode (env.jc.dump (genAfterCb b.cfg env.now).2.2.1)) ++ [46] := by
  obtain ⟨_, _, _, hadm, _⟩ := generate_ok env b t h
  have hn : usedAlg (genAfterCb b.cfg env.now).2.2.2 = .none := by
    rw [hk] at hadm
    rcases (Props.C02.C02_table_checker _ _).1 ((Props.C02.C02_table_builder _ _).1 hadm).1 with ⟨_, e⟩ | ⟨_, ⟨⟩, _⟩
    exact e
  refine ⟨hn, ?_⟩
  obtain ⟨H, P, hH, hP, _, _, _, _, hcase⟩ := Props.C10.C10_shape env b t h
  subst hP
  rcases hcase with ⟨_, ht⟩ | ⟨hne, _⟩
  · rw [hn] at hH; exact ⟨H, hH, ht⟩
  · exact absurd hn hne

/-! ### non-vacuity -/
-- a keyless, alg-less configuration accepts an unsigned `none` token at the policy level …
example : configPost { key := none, alg := .none } .none 0 = none := by decide
-- … and nothing else
example : configPost { key := none, alg := .none } .hs256 0 = some .expectedSig := by decide
example : configPost { key := none, alg := .none } .none 4 = some .sigButAlgNone := by decide
example : configPost { key := some Props.C02.rsaPub, alg := .none } .none 0 = some .expectedSig := by decide

end Jwt.Props.C03
