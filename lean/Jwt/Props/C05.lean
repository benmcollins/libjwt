import Jwt.Props.C10
import Jwt.Lemmas.Verify
/-!
# C05 — every generated token verifies and delivers the same header and claims

The laws about the delegated parts are explicit hypotheses (never axioms): jansson's
`load (dump t) = t` for the two objects involved, a non-empty MAC / signature, and the primitive's
own "what `sign` produced, `verify` accepts" (possibly across providers). Everything libjwt owns —
encoding, dots, splitting, decoding, alg naming and parsing, pinning, gates, the textual HMAC
comparison — is proved. The ECDSA `r‖s` re-framing lives inside the providers' glue and is covered
by the correspondence suite (≥ 150 / 4096 signatures per curve), see DESIGN §8 C05.
-/
namespace Jwt.Props.C05
open Jwt Jwt.Base64 Jwt.Props.C15 Jwt.Props.C10

theorem urlChar_ne_dot (c : UInt8) (h : Props.C11.isUrlChar c) : c ≠ 46 := by
  intro e; subst e; revert h; unfold Props.C11.isUrlChar; decide

theorem uriEncodeRet_pos (x : Bytes) (h : x ≠ []) : uriEncodeRet x > 0 := by
  have := List.length_pos_iff.2 h
  rw [uriEncodeRet, base64Encode_length]
  omega

theorem uriEncode_ne_nil (x : Bytes) (h : x ≠ []) : uriEncode x ≠ [] := by
  have := List.length_pos_iff.2 h
  rw [← List.length_pos_iff, Props.C11.C11_length]
  omega

/-- **Round trip.** Let `generate` return `tok` for a configuration whose algorithm `a` is not `none`.
A checker without callback that holds the corresponding key (`kc`: same type, size and — for oct —
bytes), admitted with the same pinned algorithm, whose claim checks the emitted claims satisfy,
accepts `tok`; and the header and claims it parses (what its callback would be handed) are exactly
the per-token header `H` (builder headers ⊕ typ ⊕ alg, `C10_header`) and claims `P`
(builder claims ⊕ iat/nbf/exp ⊕ callback edits, `C10_claims`). -/
theorem C05_roundtrip (envB envC : Env) (b : Builder) (ck : Checker) (tok : Bytes)
    (hgen : (generate envB b).2 = some tok)
    (hjc : envC.jc = envB.jc) (hcr : envC.cr = envB.cr)
    (hobj : IsObj (genAfterCb b.cfg envB.now).2.1)
    (ks kc : KeyItem) (hks : (genAfterCb b.cfg envB.now).2.2.2.key = some ks)
    (hkty : kc.kty = ks.kty) (hbits : kc.bits = ks.bits) (hoct : kc.oct = ks.oct)
    (hnocb : ck.cfg.cb = none) (hckey : ck.cfg.key = some kc)
    (hadm : setkeyCheck .checker ck.cfg.alg (some kc) = none)
    (hpin : pinned { key := some kc, alg := ck.cfg.alg } = usedAlg (genAfterCb b.cfg envB.now).2.2.2)
    (halg : usedAlg (genAfterCb b.cfg envB.now).2.2.2 ≠ .none)
    (hclaims : claimsFail ck.cfg.claims (genAfterCb b.cfg envB.now).2.2.1 envC.now = false)
    -- laws of the delegated parts
    (hload : ∀ t, envB.jc.dump t ≠ [] → envB.jc.load (cstr (envB.jc.dump t)) = some t)
    (hmac_ne : ∀ a k m, envB.cr.hmac a k m ≠ [])
    (hsup : envC.prov.supports (usedAlg (genAfterCb b.cfg envB.now).2.2.2) = true)
    (hpk : ∀ m sig, envB.cr.pkSign envB.prov ks (usedAlg (genAfterCb b.cfg envB.now).2.2.2) m = some sig →
        sig ≠ [] ∧ envB.cr.pkVerify envC.prov kc (usedAlg (genAfterCb b.cfg envB.now).2.2.2) m sig = true) :
    (verify envC ck (some tok)).2 = 0 ∧
    ∃ H p, headSetup (genAfterCb b.cfg envB.now).2.1 (usedAlg (genAfterCb b.cfg envB.now).2.2.2) = .ok H ∧
      parse envC.jc tok = .ok p ∧ p.headers = H ∧ p.claims = (genAfterCb b.cfg envB.now).2.2.1 := by
  obtain ⟨H, P, hH, hP, ne1, ne2, al1, al2, hcase⟩ := C10_shape envB b tok hgen
  subst hP
  generalize hr : genAfterCb b.cfg envB.now = r at *
  generalize ha : usedAlg r.2.2.2 = a at *
  rcases hcase with ⟨hnone, _⟩ | ⟨_, k, sig, tr, hk, hsign, htok⟩
  · exact absurd hnone halg
  rw [hks] at hk; cases hk
  obtain ⟨hstr, hsig⟩ := sign_ok envB ks a _ sig tr hsign
  have hsig_ne : sig ≠ [] := by
    rcases hsig with ⟨_, he, _⟩ | ⟨_, _, hp, _⟩
    · rw [he]; exact hmac_ne _ _ _
    · exact (hpk _ sig hp).1
  generalize heh : uriEncode (envB.jc.dump H) = eh at *
  generalize hep : uriEncode (envB.jc.dump r.2.2.1) = ep at *
  -- parsing recovers the three segments, the header and the claims
  have hd1 : decodeToJson envC.jc eh = some H := by
    rw [decodeToJson, ← heh, Props.C11.C11_roundtrip _ ne1, hjc]
    exact hload H ne1
  have hd2 : decodeToJson envC.jc ep = some r.2.2.1 := by
    rw [decodeToJson, ← hep, Props.C11.C11_roundtrip _ ne2, hjc]
    exact hload _ ne2
  obtain ⟨⟨name, hname, hget⟩, _, _⟩ := C10_header r.2.1 hobj a H hH
  have hparse : parse envC.jc tok =
      .ok { head := eh, payload := ep, sig := uriEncode sig, headers := H, claims := r.2.2.1, alg := a } :=
    (parse_ok _ _ _).2 ⟨by rw [htok]; simp [signingInput],
      fun hm => urlChar_ne_dot _ (al1 _ hm) rfl, fun hm => urlChar_ne_dot _ (al2 _ hm) rfl,
      hd1, hd2, (parseHeadAlg_ok H a).2 ⟨name, hget, hname, algStr_ne_inval hname⟩⟩
  refine ⟨(verify_ok_iff _ _ _).2 ⟨tok, _, rfl, hparse, ?_⟩, H, _, hH, hparse, rfl, rfl⟩
  -- the verdict: every stage passes
  have hacb : ∀ p, afterCb ck.cfg p = (0, { key := some kc, alg := ck.cfg.alg }) := by
    intro p; simp [afterCb, hnocb, hckey]
  have hlen : (uriEncode sig).length ≠ 0 := fun e =>
    uriEncode_ne_nil sig hsig_ne (List.eq_nil_of_length_eq_zero e)
  refine ⟨by rw [hacb], by rw [hacb]; exact hadm, hclaims, ?_, Or.inr ⟨kc, by rw [hacb], ?_⟩⟩
  · rw [hacb]
    exact (configPost_key _ a _ kc rfl hadm).2 ⟨hlen, halg, hpin.symm⟩
  · refine (verifySig_ok_iff envC kc a _ _).2 ⟨(strengthOk_congr hkty hbits).2 hstr, hsig.imp ?_ ?_⟩
    · rintro ⟨hh, he, _⟩
      rw [hcr, hoct, ← he]
      exact ⟨hh, uriEncodeRet_pos sig hsig_ne, rfl⟩
    · rintro ⟨hp, _, hps, _⟩
      exact ⟨hp, hsup, sig, Props.C11.C11_roundtrip sig hsig_ne, by rw [hcr]; exact (hpk _ sig hps).2⟩

end Jwt.Props.C05
