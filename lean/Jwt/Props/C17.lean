import Jwt.Alloc
/-!
# C17 — allocation failure is reported: never a crash, never a wrong success

Theorem on the propagation model of `Jwt/Alloc.lean`, for **every set** of failing steps (the
property asks for single faults; sets are no harder). The model is at libjwt's step granularity,
not jansson's: the exhaustive `k`-th-allocation enumeration (suite `oom`) is what exercises the
real sites and ties them to the rows (PARTIAL).
-/
namespace Jwt.Props.C17
open Jwt.Alloc

/-- a wrong success or a crash can only come from a step whose reaction says so -/
theorem C17_blame (steps : List Step) (fails : Nat → Bool) (i : Nat) :
    (run steps fails i = .wrongSuccess → ∃ s ∈ steps, s.reaction = .degrade) ∧
    (run steps fails i = .crash → ∃ s ∈ steps, s.reaction = .crash) := by
  induction steps generalizing i with
  | nil => constructor <;> intro h <;> cases h
  | cons s rest ih =>
    have lift : ∀ (r : Reaction), (∃ t ∈ rest, t.reaction = r) → ∃ t ∈ s :: rest, t.reaction = r := by
      rintro r ⟨t, ht, e⟩
      exact ⟨t, by simp [ht], e⟩
    unfold run
    by_cases hf : fails i = true
    · simp only [hf, if_true]
      cases hr : s.reaction <;> simp only
      · constructor <;> intro h <;> cases h
      · exact ⟨fun h => lift _ ((ih (i + 1)).1 h), fun h => lift _ ((ih (i + 1)).2 h)⟩
      · constructor
        · intro _; exact ⟨s, by simp, hr⟩
        · intro h; cases h
      · constructor
        · intro h; cases h
        · intro _; exact ⟨s, by simp, hr⟩
    · simp only [hf, if_false]
      exact ⟨fun h => lift _ ((ih (i + 1)).1 h), fun h => lift _ ((ih (i + 1)).2 h)⟩

/-- **Outcomes.** If no step of an operation has a `degrade` or `crash` reaction, then whatever
subset of its allocations fails, the operation either completes with the fault-free result or
reports failure. -/
theorem C17_outcomes (steps : List Step) (h : ∀ s ∈ steps, s.reaction = .propagate ∨ s.reaction = .absorb)
    (fails : Nat → Bool) (i : Nat) : run steps fails i = .same ∨ run steps fails i = .reported := by
  cases hr : run steps fails i with
  | same => exact .inl rfl
  | reported => exact .inr rfl
  | wrongSuccess =>
    obtain ⟨s, hs, e⟩ := (C17_blame steps fails i).1 hr
    rcases h s hs with h | h <;> rw [e] at h <;> cases h
  | crash =>
    obtain ⟨s, hs, e⟩ := (C17_blame steps fails i).2 hr
    rcases h s hs with h | h <;> rw [e] at h <;> cases h

/-- the rows of configuring, getting/setting and verifying all propagate … -/
theorem C17_tables : ∀ s ∈ newSteps ++ setGetSteps ++ verifySteps, s.reaction = .propagate := by decide

/-- … so these operations are safe under every fault set -/
theorem C17_libjwt (fails : Nat → Bool) :
    ∀ steps ∈ [newSteps, setGetSteps, verifySteps], run steps fails 0 = .same ∨ run steps fails 0 = .reported := by
  intro steps hs
  apply C17_outcomes
  intro s hsm
  left
  apply C17_tables
  simp only [List.mem_cons, List.not_mem_nil, or_false] at hs
  rcases hs with rfl | rfl | rfl <;> simp [hsm]

/-- loading keys and generating: the only non-propagating rows are the two jansson behaviours that
are recorded as known findings (its lexer and its dumper lose bytes when a buffer cannot grow) -/
theorem C17_known : ∀ s ∈ loadSteps ++ generateSteps, s.reaction ≠ .propagate →
    s.site = "jwks_load:json_load* lexer strbuffer growth (jansson lex_save ignores strbuffer_append_byte)" ∨
    s.site = "generate:jwt_encode_str:json_dumps output buffer growth (jansson drops bytes of the dump)" := by
  intro s hs hne
  have h := List.mem_map_of_mem (f := (·.site))
    (List.mem_filter (p := (·.reaction ≠ .propagate)) |>.2 ⟨hs, decide_eq_true hne⟩)
  -- evaluating the filter compares no strings; `decide` on the statement does, at thirty times the cost
  change s.site ∈ [_, _] at h
  simpa using h

/-! ### non-vacuity -/
example : run generateSteps (fun i => i == 3) 0 = .reported := by decide
example : run generateSteps (fun _ => false) 0 = .same := by decide
example : run loadSteps (fun i => i == 2) 0 = .wrongSuccess := by decide
example : run verifySteps (fun i => i == 2 || i == 7) 0 = .reported := by decide

end Jwt.Props.C17
