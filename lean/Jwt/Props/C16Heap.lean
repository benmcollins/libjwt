import Jwt.Props.C16
import Jwt.Lemmas.Ll
import Jwt.Lemmas.JwksLoops
/-!
# C16, pointer level — the intrusive list of `ll.h` refines the abstract keyring

`Jwt/Props/C16.lean` proves the keyring laws on `List Item`. Here the same operations are taken at the
level of the code: a heap of `ll_t` nodes, the list functions *generated* from `ll.h`
(`Jwt/Generated/LlOps.lean`) and the loops of `jwks.c` written with checked loads (`Jwt/Ll.lean`).
For every well-formed list, every operation

* terminates within `length + 1` iterations and never goes through NULL or freed memory (the result is
  `some …`),
* re-establishes the list invariant (`IsList`: circular, doubly linked, no node twice, all live), and
* computes exactly what the abstract operation computes (`Abs` commutes).

So every reachable keyring state is a well-formed list whose content is the abstract list of C16,
for operation sequences of any length.
-/
namespace Jwt.Props.C16
open Jwt Jwt.Ll

/-- a keyring as the code has it: the heap, the address of the head node embedded in the set, and
what each item (named by the address of its node) contains -/
structure HSet where
  heap : Heap
  head : Addr
  item : Addr → Item

def HSet.view (s : HSet) (a : Addr) : ItemView := { error := (s.item a).error, kid := (s.item a).kid }

/-- abstraction relation: the nodes `l` form the list, and the abstract keyring holds their items in that order -/
def Abs (s : HSet) (l : List Addr) (k : KeySet) : Prop := IsList s.heap s.head l ∧ k.items = l.map s.item

/-- `jwks_create`: `INIT_LIST_HEAD` gives the empty keyring -/
theorem C16_heap_init (s : HSet) (hv : s.heap.valid s.head = true) (h0 : s.heap.valid 0 = false) :
    ∃ h', INIT_LIST_HEAD s.heap s.head = some h' ∧ Abs { s with heap := h' } [] {} := by
  obtain ⟨h', e, il, _⟩ := init_ok s.heap s.head hv h0
  exact ⟨h', e, il, rfl⟩

/-- **get / count.** `jwks_item_get(set, i)` returns the item the abstract list has at `i` (NULL beyond the
end), the walk visits `count` nodes. -/
theorem C16_heap_get (s : HSet) (l : List Addr) (k : KeySet) (fuel i : Nat) (ha : Abs s l k) (hf : l.length < fuel) :
    (itemGet s.heap s.head fuel i).map (·.map s.item) = some (k.get i) ∧
    (walk s.heap s.head fuel).map List.length = some k.count := by
  obtain ⟨il, hk⟩ := ha
  rw [itemGet_ok _ _ _ _ _ il hf, walk_ok _ _ _ _ il hf]
  simp [KeySet.get, KeySet.count, hk]

/-- **find.** `jwks_find_bykid` returns the first item whose kid is the argument — the item at the
index the abstract search reports. -/
theorem C16_heap_find (s : HSet) (l : List Addr) (k : KeySet) (fuel : Nat) (kid : Bytes) (ha : Abs s l k)
    (hf : l.length < fuel) :
    (itemFind s.heap s.view s.head fuel kid).map (·.map s.item) = some ((k.findByKid kid).bind k.get) := by
  obtain ⟨il, hk⟩ := ha
  have hget : k.get = ((l.map s.item)[·]?) := funext fun i => by simp [KeySet.get, hk]
  rw [itemFind_ok _ _ _ _ _ _ il hf, KeySet.findByKid, hk, hget, ← List.find?_eq_bind_findIdx?_getElem?, List.find?_map]
  rfl

theorem map_eraseIdx {α β : Type} (f : α → β) (l : List α) (i : Nat) : (l.map f).eraseIdx i = (l.eraseIdx i).map f := by
  simp [List.eraseIdx_eq_take_drop_succ]

/-- **add.** `jwks_item_add` of a freshly allocated item appends it. -/
theorem C16_heap_add (s : HSet) (l : List Addr) (k : KeySet) (a : Addr) (ha : Abs s l k) (ha0 : a ≠ 0)
    (hv : s.heap.valid a = false) :
    ∃ h', itemAdd s.heap s.head a = some h' ∧
      Abs { s with heap := h' } (l ++ [a]) { k with items := k.items ++ [s.item a] } := by
  obtain ⟨il, hk⟩ := ha
  obtain ⟨h', e, il', _⟩ := itemAdd_ok s.heap s.head l a il ha0 hv
  exact ⟨h', e, il', by simp [hk]⟩

/-- **free.** `jwks_item_free(set, i)` removes exactly the `i`-th item, returns what the abstract
operation returns, and the item's memory is released (and nothing else's). -/
theorem C16_heap_free (s : HSet) (l : List Addr) (k : KeySet) (fuel i : Nat) (ha : Abs s l k) (hf : l.length < fuel) :
    ∃ h', itemFree s.heap s.head fuel i = some (h', (k.free i).2) ∧
      Abs { s with heap := h' } (l.eraseIdx i) (k.free i).1 ∧
      (∀ a, a ∈ l[i]? → h'.valid a = false) ∧ (∀ a, a ∉ l[i]? → h'.valid a = s.heap.valid a) := by
  obtain ⟨il, hk⟩ := ha
  obtain ⟨h', e, il', r⟩ := itemFree_ok s.heap s.head l fuel i il hf
  have hlen : k.items.length = l.length := by rw [hk]; simp
  refine ⟨h', ?_, ⟨il', ?_⟩, fun a => (r a).1, fun a => (r a).2⟩
  · rw [e]; simp only [KeySet.free, hlen]; split <;> rfl
  · simp only [KeySet.free, hlen]
    split
    · simp [hk, map_eraseIdx]
    · rename_i hi
      rw [List.eraseIdx_of_length_le (by omega)]; exact hk

/-- **free_bad.** `jwks_item_free_bad` removes exactly the items that carry an error, keeps the rest in
order, reports their number and releases exactly their memory. -/
theorem C16_heap_free_bad (s : HSet) (l : List Addr) (k : KeySet) (fuel : Nat) (ha : Abs s l k) (hf : l.length < fuel) :
    ∃ h', freeBad s.heap s.view s.head fuel = some (h', k.freeBad.2) ∧
      Abs { s with heap := h' } (l.filter (fun a => !(s.item a).error)) k.freeBad.1 ∧
      (∀ a, a ∈ l → (s.item a).error = true → h'.valid a = false) := by
  obtain ⟨il, hk⟩ := ha
  obtain ⟨h', e, il', va, _⟩ := freeBad_ok s.heap s.view s.head l fuel il hf
  refine ⟨h', ?_, ⟨il', ?_⟩, va⟩
  · rw [e]
    simp only [KeySet.freeBad, hk, HSet.view, List.filter_map, List.length_map, Function.comp_def]
  · simp only [KeySet.freeBad, hk, List.filter_map, Function.comp_def]

/-- **free_all.** -/
theorem C16_heap_free_all (s : HSet) (l : List Addr) (k : KeySet) (fuel n : Nat) (ha : Abs s l k)
    (hf : l.length < fuel) (hn : l.length < n) :
    ∃ h', freeAllLoop s.head fuel n s.heap 0 = some (h', k.freeAll.2) ∧
      Abs { s with heap := h' } [] k.freeAll.1 ∧ (∀ a ∈ l, h'.valid a = false) := by
  obtain ⟨il, hk⟩ := ha
  obtain ⟨h', e, il', r⟩ := freeAllLoop_ok s.head fuel l s.heap n 0 il hf hn
  refine ⟨h', ?_, ⟨il', by simp [KeySet.freeAll]⟩, fun a => (r a).1⟩
  rw [e]; simp [KeySet.freeAll, hk]

/-- the operations at pointer level, as a history -/
inductive HOp where
  | add (a : Addr)
  | free (i : Nat)
  | freeBad
  | freeAll

/-- one operation on the heap keyring; `none` = it went through a dead pointer or did not terminate
within `fuel` iterations -/
def hstep (item : Addr → Item) (head : Addr) (fuel : Nat) (h : Heap) : HOp → Option Heap
  | .add a => itemAdd h head a
  | .free i => (itemFree h head fuel i).map (·.1)
  | .freeBad => (freeBad h (fun a => { error := (item a).error, kid := (item a).kid }) head fuel).map (·.1)
  | .freeAll => (freeAllLoop head fuel fuel h 0).map (·.1)

/-- the same operation on the abstract keyring -/
def kstep (item : Addr → Item) (k : KeySet) : HOp → KeySet
  | .add a => { k with items := k.items ++ [item a] }
  | .free i => (k.free i).1
  | .freeBad => k.freeBad.1
  | .freeAll => k.freeAll.1

def HOp.isAdd : HOp → Bool | .add _ => true | _ => false

def hrun (item : Addr → Item) (head : Addr) (fuel : Nat) : Heap → List HOp → Option Heap
  | h, [] => some h
  | h, op :: rest => (hstep item head fuel h op).bind fun h' => hrun item head fuel h' rest

def krun (item : Addr → Item) : KeySet → List HOp → KeySet
  | k, [] => k
  | k, op :: rest => krun item (kstep item k op) rest

/-- the allocator's contract along a run: what `jwt_malloc` hands out for a new item is not NULL and
not the address of an object that is still alive (an address freed earlier may come back) -/
def AllocOk (item : Addr → Item) (head : Addr) (fuel : Nat) : Heap → List HOp → Prop
  | _, [] => True
  | h, op :: rest =>
    (match op with | .add a => a ≠ 0 ∧ h.valid a = false | _ => True) ∧
    ∀ h', hstep item head fuel h op = some h' → AllocOk item head fuel h' rest

/-- one step of a history: it completes, the abstraction commutes, and only `add` makes the list longer -/
theorem hstep_ok (item : Addr → Item) (head : Addr) (fuel : Nat) {h : Heap} {l : List Addr} {k : KeySet} (op : HOp)
    (ha : Abs ⟨h, head, item⟩ l k) (hfresh : match op with | .add a => a ≠ 0 ∧ h.valid a = false | _ => True)
    (hf : l.length + (if op.isAdd then 1 else 0) < fuel) :
    ∃ h' l', hstep item head fuel h op = some h' ∧ Abs ⟨h', head, item⟩ l' (kstep item k op) ∧
      l'.length ≤ l.length + (if op.isAdd then 1 else 0) := by
  cases op with
  | add a =>
    obtain ⟨h', e, ha'⟩ := C16_heap_add ⟨h, head, item⟩ l k a ha hfresh.1 hfresh.2
    exact ⟨h', _, e, ha', by simp [HOp.isAdd]⟩
  | free i =>
    obtain ⟨h', e, ha', _⟩ := C16_heap_free ⟨h, head, item⟩ l k fuel i ha hf
    exact ⟨h', _, by simp [hstep, e], ha', by rw [List.length_eraseIdx]; split <;> omega⟩
  | freeBad =>
    obtain ⟨h', e, ha', _⟩ := C16_heap_free_bad ⟨h, head, item⟩ l k fuel ha hf
    exact ⟨h', _, congrArg (Option.map Prod.fst) e, ha',
      Nat.le_add_right_of_le (List.length_filter_le ..)⟩
  | freeAll =>
    obtain ⟨h', e, ha', _⟩ := C16_heap_free_all ⟨h, head, item⟩ l k fuel fuel ha hf hf
    exact ⟨h', _, by simp [hstep, e], ha', Nat.zero_le _⟩

/-- **Every history.** Starting from a well-formed keyring, any sequence of add / free / free_bad /
free_all of any length — under the allocator's contract, with `fuel` above the number of nodes that
can be alive — runs to completion without touching dead memory, ends in a well-formed list, and that
list's content is what the abstract operations (the ones `C16_history` speaks about) compute. -/
theorem C16_heap_history (item : Addr → Item) (head : Addr) (fuel : Nat) (ops : List HOp) :
    ∀ (h : Heap) (l : List Addr) (k : KeySet), Abs ⟨h, head, item⟩ l k →
      l.length + (ops.filter HOp.isAdd).length < fuel → AllocOk item head fuel h ops →
      ∃ h' l', hrun item head fuel h ops = some h' ∧ Abs ⟨h', head, item⟩ l' (krun item k ops) := by
  induction ops with
  | nil => intro h l k ha _ _; exact ⟨h, l, rfl, ha⟩
  | cons op rest ih =>
    intro h l k ha hf ⟨hfresh, hnext⟩
    have hc : ((op :: rest).filter HOp.isAdd).length = (if op.isAdd then 1 else 0) + (rest.filter HOp.isAdd).length := by
      cases hop : op.isAdd <;> simp [hop, Nat.add_comm]
    obtain ⟨h', l', hs, ha', hlen⟩ := hstep_ok item head fuel op ha hfresh (by omega)
    obtain ⟨h'', l'', e2, ha2⟩ := ih h' l' _ ha' (by omega) (hnext h' hs)
    exact ⟨h'', l'', by simpa [hrun, hs] using e2, ha2⟩

/-! ## non-vacuity: a concrete heap, a concrete history -/

/-- set at address 1 (head), three item slots 10, 20, 30; 20 carries an error -/
def demoItem (a : Addr) : Item := if a = 20 then { error := true, msg := true } else { kid := some [107, a.toUInt8] }
def demoHeap : Heap := { valid := fun a => a = 1, next := fun a => if a = 1 then 1 else 0, prev := fun a => if a = 1 then 1 else 0 }

example : (hrun demoItem 1 8 demoHeap [.add 10, .add 20, .add 30, .freeBad, .free 0, .add 10]).bind
    (fun h => walk h 1 8) = some [30, 10] := by decide +kernel
example : (krun demoItem {} [.add 10, .add 20, .add 30, .freeBad, .free 0, .add 10]).items = [30, 10].map demoItem := by
  decide +kernel
-- adding an address that is still alive is the allocator's contract broken: the model refuses it
example : hrun demoItem 1 8 demoHeap [.add 10, .add 10] = none := by decide +kernel
-- a second list_del of the same node goes through NULL
example : ((hrun demoItem 1 8 demoHeap [.add 10]).bind fun h => (list_del h 10).bind fun h => list_del h 10) = none := by
  decide +kernel

/-! ## The same, for the functions as *translated* from `jwks.c`

`Jwt/Generated/JwksLoops.lean` is regenerated from the C text on every run (`tie/loops.py`); the theorems
below are the ones above, restated for the generated functions through the equalities of
`Jwt/Lemmas/JwksLoops.lean`. They are what ties the pointer-level result to the code that is there. -/

/-- `jwks_item_get`, `jwks_item_count`, `jwks_error_any` as translated: the item at `i` (NULL beyond the end), the
number of keys, the set's flag plus the number of keys that failed to load. -/
theorem C16_src_get_count_errany (s : HSet) (l : List Addr) (k : KeySet) (fuel i : Nat) (ha : Abs s l k) (hf : l.length < fuel) :
    (Src.jwks_item_get s.heap s.head i fuel).map (·.map s.item) = some (k.get i) ∧
    Src.jwks_item_count s.heap s.head fuel = some k.count ∧
    Src.jwks_error_any s.heap s.view s.head (if k.error then 1 else 0) fuel = some k.errorAny := by
  obtain ⟨h1, h2⟩ := C16_heap_get s l k fuel i ha hf
  obtain ⟨il, hk⟩ := ha
  refine ⟨by rw [src_get]; exact h1, by rw [src_count]; exact h2, ?_⟩
  rw [src_error_any, walk_ok _ _ _ _ il hf]
  simp [KeySet.errorAny, hk, List.filter_map, HSet.view, Function.comp_def]

/-- `jwks_find_bykid` as translated -/
theorem C16_src_find (s : HSet) (l : List Addr) (k : KeySet) (fuel : Nat) (kid : Bytes) (ha : Abs s l k) (hf : l.length < fuel) :
    (Src.jwks_find_bykid s.heap s.view s.head kid fuel).map (·.map s.item) = some ((k.findByKid kid).bind k.get) := by
  rw [src_find]; exact C16_heap_find s l k fuel kid ha hf

/-- `jwks_item_add` as translated (after the allocation of the item) -/
theorem C16_src_add (s : HSet) (l : List Addr) (k : KeySet) (a : Addr) (ha : Abs s l k) (ha0 : a ≠ 0) (hv : s.heap.valid a = false) :
    ∃ h', (s.heap.alloc a).bind (fun h => Src.jwks_item_add h s.head a) = some (h', 0) ∧
      Abs { s with heap := h' } (l ++ [a]) { k with items := k.items ++ [s.item a] } := by
  obtain ⟨h', e, hab⟩ := C16_heap_add s l k a ha ha0 hv
  exact ⟨h', by rw [src_add, e]; rfl, hab⟩

/-- `jwks_item_free` as translated -/
theorem C16_src_free (s : HSet) (l : List Addr) (k : KeySet) (fuel i : Nat) (ha : Abs s l k) (hf : l.length < fuel) :
    ∃ h', Src.jwks_item_free s.heap s.head false i fuel = some (h', (k.free i).2) ∧
      Abs { s with heap := h' } (l.eraseIdx i) (k.free i).1 ∧
      (∀ a, a ∈ l[i]? → h'.valid a = false) ∧ (∀ a, a ∉ l[i]? → h'.valid a = s.heap.valid a) := by
  rw [src_free]; exact C16_heap_free s l k fuel i ha hf

/-- `jwks_item_free_bad` as translated -/
theorem C16_src_free_bad (s : HSet) (l : List Addr) (k : KeySet) (fuel : Nat) (ha : Abs s l k) (hf : l.length < fuel) :
    ∃ h', Src.jwks_item_free_bad s.heap s.view s.head fuel = some (h', k.freeBad.2) ∧
      Abs { s with heap := h' } (l.filter (fun a => !(s.item a).error)) k.freeBad.1 ∧
      (∀ a, a ∈ l → (s.item a).error = true → h'.valid a = false) := by
  rw [src_free_bad]; exact C16_heap_free_bad s l k fuel ha hf

/-- `jwks_item_free_all` as translated -/
theorem C16_src_free_all (s : HSet) (l : List Addr) (k : KeySet) (fuel : Nat) (ha : Abs s l k) (hf : l.length < fuel) :
    ∃ h', Src.jwks_item_free_all s.heap s.head false fuel = some (h', k.freeAll.2) ∧
      Abs { s with heap := h' } [] k.freeAll.1 ∧ (∀ a ∈ l, h'.valid a = false) := by
  rw [src_free_all]; exact C16_heap_free_all s l k fuel fuel ha hf hf

-- the translated functions on a concrete heap: head at 1, items at 10 (good), 20 (errored), 30 (good, kid "k")
example : (hrun demoItem 1 8 demoHeap [.add 10, .add 20, .add 30]).bind (fun h => Src.jwks_item_count h 1 8) = some 3 := by decide +kernel
example : (hrun demoItem 1 8 demoHeap [.add 10, .add 20, .add 30]).bind (fun h => Src.jwks_item_get h 1 1 8) = some (some 20) := by decide +kernel
example : (hrun demoItem 1 8 demoHeap [.add 10, .add 20, .add 30]).bind (fun h => Src.jwks_item_get h 1 3 8) = some none := by decide +kernel
example : ((hrun demoItem 1 8 demoHeap [.add 10, .add 20, .add 30]).bind (fun h => Src.jwks_item_free_bad h (fun a => { error := (demoItem a).error, kid := (demoItem a).kid }) 1 8)).map (·.2)
    = ((krun demoItem {} [.add 10, .add 20, .add 30]).freeBad).2 := by decide +kernel

end Jwt.Props.C16
