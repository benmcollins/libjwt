import Jwt.Jwk
import Jwt.Generated.JwkTables
import Jwt.Lemmas.Json
import Jwt.Lemmas.AlgFacts
import Jwt.Props.C11
import Jwt.Lemmas.PipelineJwk
import Jwt.Lemmas.StrCmpCode
/-!
# C08 — JWK import preserves the key and its metadata

Proved: oct bytes/size/status (through the C11 round trip), the metadata (`alg`, `use`, `key_ops`,
`kid`) as functions of the members, and the frame property — members that do not belong to the
key type, or that the library does not know, never change the imported item, for any JSON value.
Numeric identity of RSA/EC/OKP key material goes through `EVP_PKEY_fromdata`/PEM and is sampled by
suite `jwk-import` against an independent OpenSSL caller (PARTIAL).
-/
namespace Jwt.Props.C08
open Jwt Jwt.Base64

def nKty : Bytes := [107, 116, 121]
def nK : Bytes := [107]
def nUse : Bytes := [117, 115, 101]
def nOps : Bytes := [107, 101, 121, 95, 111, 112, 115]
def nKid : Bytes := [107, 105, 100]
def sOct : Bytes := [111, 99, 116]

/-- with an `alg` member that is a string (or none), `jwk_process_values` writes metadata fields and nothing else -/
theorem processValues_meta (jwk : Json) (it : Item) (halg : ∀ v, jwk.objGet N.alg = some v → ∃ s, v = .str s) :
    ∃ al u o k, processValues jwk it = { it with alg := al, use := u, keyOps := o, kid := k } := by
  obtain ⟨u, o, e⟩ := processValues_closed jwk it
  refine ⟨_, u, o, _, e.trans (if_neg ?_)⟩
  cases h : jwk.objGet N.alg with
  | none => nofun
  | some v => obtain ⟨s, rfl⟩ := halg v h; nofun

/-- **oct keys**: `k = base64url(bytes)` with non-empty `bytes` imports as exactly those bytes,
`8·|bytes|` bits, private (symmetric) status, no error — whatever else the object contains,
provided its `alg` (if any) is a string. -/
theorem C08_oct (o : KeyOracle) (j : Json) (bytes : Bytes) (hne : bytes ≠ [])
    (hkty : j.objGet nKty = some (.str sOct)) (hk : j.objGet nK = some (.str (uriEncode bytes)))
    (halg : ∀ v, j.objGet N.alg = some v → ∃ s, v = .str s) :
    let it := processOne o j
    it.oct = bytes ∧ it.bits = bytes.length * 8 ∧ it.isPrivate = true ∧ it.kty = 4 ∧ it.error = false := by
  have hone : processOne o j = processValues j { kty := 4, isPrivate := true, oct := bytes, bits := bytes.length * 8 } := by
    unfold processOne
    rw [show [107, 116, 121] = nKty from rfl, hkty, processOctet_eq, show [107] = nK from rfl, hk, bnOf_str,
      Props.C11.C11_roundtrip bytes hne]
    rfl   -- the kty table, looked up at "oct", gives 4
  obtain ⟨al, u, o, k, e⟩ := processValues_meta j { kty := 4, isPrivate := true, oct := bytes, bits := bytes.length * 8 } halg
  rw [hone, e]; exact ⟨rfl, rfl, rfl, rfl, rfl⟩

/-- **Metadata** as the JWK states it: `alg` is `jwt_str_alg` of a string member (absent → none),
`kid` a non-empty string member, `use` per the generated table. -/
theorem C08_meta (j : Json) (it : Item) :
    (j.objGet N.alg = none → (processValues j it).alg = it.alg) ∧
    (∀ s, j.objGet N.alg = some (.str s) → (processValues j it).alg = strAlg (some s)) ∧
    (∀ s, j.objGet N.alg = some (.str s) ∨ j.objGet N.alg = none →
      j.objGet nKid = some (.str s) → s ≠ [] → (processValues j it).kid = some s) := by
  obtain ⟨u, o, e⟩ := processValues_closed j it
  rw [e]
  refine ⟨fun h => ?_, fun s h => ?_, fun s h hk hne => ?_⟩
  · rw [h]; rfl
  · rw [h]; rfl
  · rw [show [107, 105, 100] = nKid from rfl, hk]
    rcases h with h | h <;> rw [h] <;> exact if_neg hne

/-- the names any import step ever looks up -/
def readSet : List Bytes :=
  [nKty, N.alg, nUse, nOps, nKid, nK, [99, 114, 118], [120], [121], [100], [110], [101], [112], [113], [100, 112], [100, 113], [113, 105]]

/-- every import step reads the JWK only through `json_object_get` of these names -/
theorem processOne_congr (o : KeyOracle) {j j' : Json} (h : ∀ k ∈ readSet, j.objGet k = j'.objGet k) :
    processOne o j = processOne o j' := by
  simp only [readSet, nKty, nUse, nOps, nKid, nK, List.forall_mem_cons, List.not_mem_nil, false_imp_iff, implies_true, and_true] at h
  obtain ⟨hkty, halg, huse, hops, hkid, hk, hcrv, hx, hy, hd, hn, he, hp, hq, hdp, hdq, hqi⟩ := h
  -- one importer at a time: unfolding all of them at once makes every rewrite walk a huge term
  have hv : ∀ it, processValues j it = processValues j' it := fun it => by
    unfold processValues processValues.rest
    rw [halg, huse, hops, hkid]
  have hec : ∀ it, processEc o j it = processEc o j' it := fun it => by
    unfold processEc
    rw [hcrv, hx, hy, hd]
  have hrsa : ∀ it, processRsa o j it = processRsa o j' it := fun it => by
    -- its lookups go through a local function, which `rw` does not see through
    simp only [processRsa, halg, hn, he, hd, hp, hq, hdp, hdq, hqi]
  have hokp : ∀ it, processOkp o j it = processOkp o j' it := fun it => by
    unfold processOkp
    rw [hcrv, hx, hd]
  have hoct : ∀ it, processOctet j it = processOctet j' it := fun it => by
    unfold processOctet
    rw [hk]
  simp only [processOne, hkty, hv, hec, hrsa, hokp, hoct]

/-- **Frame.** Adding or replacing a member whose name the library does not read — with any JSON
value — leaves the imported item unchanged. (Members that belong to *another* key type are covered
for oct keys by `C08_oct` and for the others by the correspondence suite.) -/
theorem C08_frame (o : KeyOracle) (kvs : List (Bytes × Json)) (n : Bytes) (v : Json) (hn : n ∉ readSet) :
    processOne o ((Json.obj kvs).objSet n v) = processOne o (.obj kvs) := by
  refine processOne_congr o fun k hk => ?_
  rw [Json.objGet_objSet rfl]
  exact if_neg fun (e : k = n) => hn (e ▸ hk)

/-- **Which member becomes which number of the key** (generated from `openssl/jwk-parse.c`): RSA `n, e, d,
p, q, dp, dq, qi` fill the modulus, the exponents, the two factors, the two CRT exponents and the CRT
coefficient in that order (RFC 7518 §6.3 ↔ OpenSSL's parameter names); EC `x`, `y` reach the affine X and Y
coordinate in that order and `d` the private scalar; OKP `x` is the public and `d` the private octet string.
A transposition (p/q, dp/dq, x/y, x/d) fails this theorem at build time. -/
theorem C08_param_map :
    Generated.rsaParamMap = [("n", "n"), ("e", "e"), ("d", "d"), ("p", "rsa-factor1"), ("q", "rsa-factor2"),
      ("dp", "rsa-exponent1"), ("dq", "rsa-exponent2"), ("qi", "rsa-coefficient1")] ∧
    (∀ m p, (m, p) ∈ Generated.ecParamMap ↔ (m, p) ∈ [("x", "pub.x"), ("y", "pub.y"), ("d", "priv")]) ∧
    Generated.ecCoordFlow = [(0, "X"), (1, "Y")] ∧
    (∀ m p, (m, p) ∈ Generated.okpParamMap ↔ (m, p) ∈ [("x", "pub"), ("d", "priv")]) :=
  -- the generated tables are these lists, but for the EC one, which has `d` first
  ⟨rfl, fun _ _ => (List.perm_append_comm (l₁ := [("d", "priv")]) (l₂ := [("x", "pub.x"), ("y", "pub.y")])).mem_iff,
    rfl, fun _ _ => Iff.rfl⟩

/-! ### non-vacuity -/
example : ([122, 122] : Bytes) ∉ readSet := by decide
example : ([120, 53, 99] : Bytes) ∉ readSet := by decide     -- "x5c"
example : (Json.obj [(nKty, .str sOct), (nK, .str (uriEncode [1, 2, 3]))]).objGet nK = some (.str (uriEncode [1, 2, 3])) := by
  rfl

/-- **The metadata import is the source's.** `jwk_process_values` is *generated* from `jwks.c` with flags for what it
stores. For all 2048 combinations of its tests (allocation succeeding): a message is written exactly for an `alg` that is
there and is not a string, and then nothing else is stored; otherwise `alg`, `use` (sig / enc), `key_ops` and `kid` are
stored each under its own condition -- no member's handling depends on another's. -/
theorem C08_values_flags : ∀ a b c d e f g h i j k : Bool,
    let r := Jwt.Generated.Pipeline.processValues a b c d e f g h i j k false
    r.2.1 = (!a && !b) ∧ r.2.2.1 = (!a && b) ∧
    (r.2.1 = false → r.2.2.2.1 = (!c && d && e) ∧ r.2.2.2.2.1 = (!c && d && !e && f) ∧ r.2.2.2.2.2.1 = (!g && h) ∧ r.2.2.2.2.2.2 = (!i && j && !k)) :=
  fun a b c d e f g h i j k =>
    have p := processValues_flags a b c d e f g h i j k
    ⟨p.2.1, p.2.2.1, p.2.2.2.2⟩

/-- the model flags an item in `jwk_process_values` exactly when the generated code writes a message, and stores the key id
exactly when the generated code does (a non-empty string `kid`), as that string -/
theorem C08_values_are_source (jwk : Json) (it : Item) (hit : it.error = false) :
    ((processValues jwk it).error = (processValuesGen jwk).2.1) ∧
    ((processValuesGen jwk).2.1 = false →
      ((processValuesGen jwk).2.2.2.2.2.2 = true ↔ ∃ s, (jwk.objGet [107, 105, 100]).bind Json.strVal = some s ∧ s ≠ [] ∧ (processValues jwk it).kid = some s)) :=
  processValues_generated jwk it hit


/-- **Names are matched as a whole, by the source's comparison.**  The `alg`, `kty`, `use` and `key_ops` values of a JWK go
through `jwt_strcmp`; as translated from jwt-memory.c it returns 0 exactly for equal strings, so a registered name with
anything appended, cut short or in another case is not that name -/
theorem C08_name_compare_is_source (a b : Bytes) :
    Generated.StrCmpCode.jwtStrcmp (a.map UInt8.toNat) (b.map UInt8.toNat) = 0 ↔ a = b := by
  rw [StrCmpCode.translated_agrees_with_model, jwtStrcmp_eq_zero_iff]


end Jwt.Props.C08
