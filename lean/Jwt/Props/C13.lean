import Jwt.Lemmas.Verify
import Jwt.Checker
import Jwt.Lemmas.Builder
import Jwt.Lemmas.PipelineConfig
/-!
# C13 — a verdict depends only on configuration, token and clock (checker side; builder in C13b)
-/
namespace Jwt.Props.C13
open Jwt

/-- a freshly created, identically configured checker -/
def fresh (ck : Checker) : Checker := { cfg := ck.cfg, error := false, msg := none }

/-- **One call.** The return value does not depend on the error state the checker was in, and the
call leaves the configuration untouched. -/
theorem C13_verify (env : Env) (ck : Checker) (tok : Option Bytes) :
    (verify env ck tok).2 = (verify env (fresh ck) tok).2 ∧ (verify env ck tok).1.cfg = ck.cfg := by
  rw [verify_eq, verify_eq, show (fresh ck).cfg = ck.cfg from rfl]
  cases verifyExit env ck.cfg tok <;> exact ⟨rfl, rfl⟩

/-- the calls that may be interleaved with verifications without touching the configuration -/
inductive Call where
  | verify (env : Env) (tok : Option Bytes)
  | errorClear

def run (ck : Checker) : Call → Checker × Option Nat
  | .verify env tok => let r := verify env ck tok; (r.1, some r.2)
  | .errorClear => (ck.errorClear, none)

/-- run a history, collecting the return values -/
def runAll : Checker → List Call → Checker × List (Option Nat)
  | ck, [] => (ck, [])
  | ck, c :: cs => let r := run ck c; let rest := runAll r.1 cs; (rest.1, r.2 :: rest.2)

/-- what fresh checkers would have answered, call by call -/
def freshAnswers (ck : Checker) : List Call → List (Option Nat)
  | [] => []
  | .verify env tok :: cs => some (verify env (fresh ck) tok).2 :: freshAnswers ck cs
  | .errorClear :: cs => none :: freshAnswers ck cs

/-- **Histories.** Whatever tokens were verified before (valid, invalid at any layer, NULL, empty),
and whether or not errors were cleared in between, the i-th verdict on a reused checker equals the
verdict a fresh identically configured checker gives for that token at that time. -/
theorem C13_history (ck : Checker) (calls : List Call) :
    (runAll ck calls).2 = freshAnswers ck calls ∧ (runAll ck calls).1.cfg = ck.cfg := by
  -- only the configuration matters: run from any state `ck'` that shares it
  suffices ∀ ck' : Checker, ck'.cfg = ck.cfg →
      (runAll ck' calls).2 = freshAnswers ck calls ∧ (runAll ck' calls).1.cfg = ck.cfg from this ck rfl
  induction calls with
  | nil => exact fun _ h => ⟨rfl, h⟩
  | cons c cs ih =>
    intro ck' h
    cases c with
    | verify env tok =>
      obtain ⟨h1, h2⟩ := C13_verify env ck' tok
      obtain ⟨h3, h4⟩ := ih (verify env ck' tok).1 (h2.trans h)
      exact ⟨by simp only [runAll, run, freshAnswers, h3, h1, fresh, h], h4⟩
    | errorClear =>
      obtain ⟨h3, h4⟩ := ih ck'.errorClear h
      exact ⟨by simp only [runAll, run, freshAnswers, h3], h4⟩

/-- **Builders.** What `generate` returns does not depend on the builder's error state (in
particular not on earlier failed generates — in the callback or on the key — or on error_clear), and
generating leaves the configuration unchanged; so a reused builder generates what a fresh
identically configured one would. -/
theorem C13_generate (env : Env) (b : Builder) :
    (generate env b).2 = (generate env { cfg := b.cfg, error := false, msg := none }).2 ∧
    (generate env b).1.cfg = b.cfg := by
  rw [generate_eq, generate_eq]
  cases hg : generateCore env b.cfg with
  | mk ex rest => cases ex <;> exact ⟨rfl, rfl⟩

/-- run a list of generates (each under its own clock/provider/oracles), collecting the tokens -/
def genAll : Builder → List Env → Builder × List (Option Bytes)
  | b, [] => (b, [])
  | b, e :: es => let r := generate e b; let rest := genAll r.1 es; (rest.1, r.2 :: rest.2)

theorem C13_generate_history (b : Builder) (envs : List Env) :
    (genAll b envs).2 = envs.map (fun e => (generate e { cfg := b.cfg, error := false, msg := none }).2) ∧
    (genAll b envs).1.cfg = b.cfg := by
  induction envs generalizing b with
  | nil => exact ⟨rfl, rfl⟩
  | cons e es ih =>
    have h1 := C13_generate e b
    have h2 := ih (generate e b).1
    simp only [genAll, List.map_cons]
    refine ⟨?_, by rw [h2.2, h1.2]⟩
    rw [h2.1, h1.1, h1.2]

/-! ### non-vacuity: a state with the flag set and a stale message is a legitimate starting point -/
example : (fresh { cfg := Checker.new.cfg, error := true, msg := some .claims }).error = false := rfl

/-- **The configuration calls are the source's.** `FUNC(setkey)` and `FUNC(setcb)` are *generated* from `jwt-common.c`
with a flag that says whether the arguments were stored. A refused `setkey` returns 1 and leaves key and algorithm as
they were (the verdicts that follow depend on the configuration in force, which is the old one); an admitted one stores
both. -/
theorem C13_setkey_is_source (ck : Checker) (alg : Alg) (key : Option KeyItem) :
    (ck.setkey alg key).2 = (Jwt.Generated.Pipeline.setkey (setkeyCheck .checker alg key).isSome).1 ∧
    ((Jwt.Generated.Pipeline.setkey (setkeyCheck .checker alg key).isSome).2.2 = false →
      (ck.setkey alg key).1.cfg.alg = ck.cfg.alg ∧ (ck.setkey alg key).1.cfg.key = ck.cfg.key) :=
  ⟨(checker_setkey_generated ck alg key).1, (checker_setkey_generated ck alg key).2.2⟩

/-- a context-only `setcb` (NULL callback, non-NULL context) keeps the installed callback, in the model and in the
generated code (`stored` stays false); without an installed callback it is refused with a message -/
theorem C13_setcb_ctx_is_source (ck : Checker) :
    ck.setcbCtx.2 = (Jwt.Generated.Pipeline.setcb false true ck.cfg.cb.isNone false).1 ∧
    (Jwt.Generated.Pipeline.setcb false true ck.cfg.cb.isNone false).2.2 = false ∧ ck.setcbCtx.1.cfg.cb = ck.cfg.cb :=
  ⟨(checker_setcb_generated ck none).2.1, (checker_setcb_generated ck none).2.2.1, (checker_setcb_generated ck none).2.2.2.1⟩

theorem C13_builder_config_is_source (b : Builder) (alg : Alg) (key : Option KeyItem) :
    (b.setkey alg key).2 = (Jwt.Generated.Pipeline.setkey (setkeyCheck .builder alg key).isSome).1 ∧
    b.setcbCtx.1.cfg.cb = b.cfg.cb :=
  ⟨(builder_setkey_generated b alg key).1, (builder_setcb_generated b none).2.2.2.1⟩

end Jwt.Props.C13
