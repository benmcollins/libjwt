import Jwt.Lemmas.Policy
import Jwt.Props.C02
import Jwt.Lemmas.Pipeline
/-!
# C19 — a verification callback can observe the token but not bend the verdict

A callback is an arbitrary function `headers → claims → alg → config → (return code, headers', claims', config')`:
`headers'`/`claims'` stand for *whatever* it did to the token object it was handed.
-/
namespace Jwt.Props.C19
open Jwt

/-- **Inert callbacks.** A callback that returns 0 and leaves key and algorithm in its config
untouched does not change the outcome, whatever it does to the token object: the call behaves
exactly as without a callback (same return value, same error flag and message presence). -/
theorem C19_inert (env : Env) (ck : Checker) (cb : CheckerCb) (tok : Option Bytes)
    (hinert : ∀ h c a cfg, (cb h c a cfg).1 = 0 ∧ (cb h c a cfg).2.2.2 = cfg) :
    verify env { ck with cfg := { ck.cfg with cb := some cb } } tok =
      (let r := verify env { ck with cfg := { ck.cfg with cb := none } } tok
       ({ r.1 with cfg := { r.1.cfg with cb := some cb } }, r.2)) := by
  have hcb : ∀ p, afterCb { ck.cfg with cb := some cb } p = afterCb { ck.cfg with cb := none } p := fun p =>
    Prod.ext (hinert p.headers p.claims p.alg _).1 (hinert p.headers p.claims p.alg _).2
  have hexit : verifyExit env { ck.cfg with cb := some cb } tok = verifyExit env { ck.cfg with cb := none } tok := by
    unfold verifyExit verifyCore
    simp only [hcb]
  simp only [verify_eq, hexit]
  cases verifyExit env { ck.cfg with cb := none } tok <;> rfl

/-- **A callback that returns non-zero always makes verification fail.** -/
theorem C19_fail (env : Env) (ck : Checker) (cb : CheckerCb) (t : Bytes) (hcb : ck.cfg.cb = some cb)
    (hret : ∀ h c a cfg, (cb h c a cfg).1 ≠ 0) : (verify env ck (some t)).2 ≠ 0 := by
  intro h0
  obtain ⟨_, p, _, _, acc⟩ := (verify_ok_iff env ck (some t)).1 h0
  have hr := acc.cb
  simp only [afterCb, hcb] at hr
  exact hret _ _ _ _ hr

/-- **Admission.** The (algorithm, key) a callback selects passes the same table as `setkey`, or
the call fails; and (C01–C03, C09, stated for the post-callback config) everything else holds for it. -/
theorem C19_admission (env : Env) (ck : Checker) (tok : Option Bytes) (h : (verify env ck tok).2 = 0) :
    ∃ t p, tok = some t ∧ parse env.jc t = .ok p ∧
      setkeyCheck .checker (afterCb ck.cfg p).2.alg (afterCb ck.cfg p).2.key = none := by
  obtain ⟨t, p, ht, hp, acc⟩ := (verify_ok_iff env ck tok).1 h
  exact ⟨t, p, ht, hp, acc.admission⟩

/-! ### non-vacuity: a callback that wipes the token object and returns 0 is inert in the sense above -/
def wiper : CheckerCb := fun _ _ _ cfg => (0, .obj [], .obj [], cfg)
example : ∀ h c a cfg, (wiper h c a cfg).1 = 0 ∧ (wiper h c a cfg).2.2.2 = cfg := fun _ _ _ _ => ⟨rfl, rfl⟩
def refuser : CheckerCb := fun h c _ cfg => (1, h, c, cfg)
example : ∀ h c a cfg, (refuser h c a cfg).1 ≠ 0 := fun _ _ _ _ => by simp [refuser]

/-- **A non-zero callback result ends the call, in the code as written.** In the decision skeleton generated from
`jwt_checker_verify` a callback that is installed and returns non-zero leads to `return 1` with a message on the
checker, whatever `__setkey_check` or the rest would say; and the callback is only reached when parsing succeeded.
(`C14_verify_exits_are_source` ties the model's `verify` to this skeleton.) -/
theorem C19_cb_nonzero_is_source (a b c : Bool) (n : Nat) :
    Jwt.Generated.Pipeline.checkerVerify false false false false false false false false a n = (1, true, false) ∧
    (∀ cbNull, Jwt.Generated.Pipeline.checkerVerify false false false false true cbNull b c a n = (1, false, true)) :=
  checkerVerify_cb_nonzero a b c n

end Jwt.Props.C19
