import Jwt.Builder
import Jwt.Lemmas.Policy
import Jwt.Lemmas.Json
/-! Structural lemmas about `generate`: what a produced token looks like, stage by stage. -/
namespace Jwt
open Jwt.Base64

theorem generateCore_ok (env : Env) (b : BuilderCfg) (t : Option Bytes) (tr : List CryptoCall)
    (h : generateCore env b = (.ok, t, tr)) :
    let r := genAfterCb b env.now
    ∃ headers tok, r.1 = 0 ∧ setkeyCheck .builder (usedAlg r.2.2.2) r.2.2.2.key = none ∧
      headSetup r.2.1 (usedAlg r.2.2.2) = .ok headers ∧
      encodeToken env headers r.2.2.1 (usedAlg r.2.2.2) r.2.2.2.key = (.ok tok, tr) ∧ t = some tok := by
  simp only [generateCore] at h
  generalize genAfterCb b env.now = r at h ⊢
  -- `h` ends in `.ok`, so no stage failed
  by_cases hr : r.1 = 0
  case neg => simp [hr] at h
  rcases hs : setkeyCheck .builder (usedAlg r.2.2.2) r.2.2.2.key with _ | e
  case some => simp [hr, hs] at h
  rcases hh : headSetup r.2.1 (usedAlg r.2.2.2) with e | headers
  · simp [hr, hs, hh] at h
  rcases he : encodeToken env headers r.2.2.1 (usedAlg r.2.2.2) r.2.2.2.key with ⟨e | tok, tr'⟩
  · simp [hr, hs, hh, he] at h
  simp only [hr, hs, hh, he, ne_eq, not_true_eq_false, if_false, Prod.mk.injEq, true_and] at h
  exact ⟨headers, tok, hr, hs, hh, h.2 ▸ he, h.1.symm⟩

/-- the algorithm `generate` uses is the one `pinned` names: the two definitions are one function -/
theorem usedAlg_eq_pinned (cfg : Config) : usedAlg cfg = pinned cfg := by
  unfold usedAlg pinned
  by_cases ha : cfg.alg = .none <;> simp [ha] <;> rfl

/-- how `jwt_builder_generate` reports the way its body ended -/
def Builder.finish (b : Builder) : Exit × Option Bytes × List CryptoCall → Builder × Option Bytes
  | (.direct e, _, _) => (b.writeError e, none)
  | (.viaJwt e, _, _) => ({ b with error := true, msg := some e }, none)
  | (.ok, t, _) => ({ b with error := false, msg := none }, t)

theorem generate_eq (env : Env) (b : Builder) : generate env b = b.finish (generateCore env b.cfg) := rfl

/-- the stages a returned token went through -/
theorem generate_ok (env : Env) (b : Builder) (t : Bytes) (h : (generate env b).2 = some t) :
    let r := genAfterCb b.cfg env.now
    ∃ headers tr, r.1 = 0 ∧ setkeyCheck .builder (usedAlg r.2.2.2) r.2.2.2.key = none ∧
      headSetup r.2.1 (usedAlg r.2.2.2) = .ok headers ∧
      encodeToken env headers r.2.2.1 (usedAlg r.2.2.2) r.2.2.2.key = (.ok t, tr) := by
  rw [generate_eq] at h
  -- only the `.ok` exit hands out a token
  rcases hg : generateCore env b.cfg with ⟨_ | _ | _, t', tr⟩ <;> rw [hg] at h <;> cases h
  obtain ⟨H, tok, h1, h2, h3, h4, h5⟩ := generateCore_ok env b.cfg _ tr hg
  cases h5
  exact ⟨H, tr, h1, h2, h3, h4⟩

/-- the shape of a produced token -/
theorem encodeToken_ok (env : Env) (headers claims : Json) (alg : Alg) (key : Option KeyItem) (tok : Bytes)
    (tr : List CryptoCall) (h : encodeToken env headers claims alg key = (.ok tok, tr)) :
    uriEncodeRet (env.jc.dump headers) ≠ 0 ∧ uriEncodeRet (env.jc.dump claims) ≠ 0 ∧
    ((alg = .none ∧ tr = [] ∧
        tok = signingInput (uriEncode (env.jc.dump headers)) (uriEncode (env.jc.dump claims)) ++ [46]) ∨
     (alg ≠ .none ∧ ∃ k sig, key = some k ∧
        sign env k alg (signingInput (uriEncode (env.jc.dump headers)) (uriEncode (env.jc.dump claims))) = (.ok sig, tr) ∧
        tok = signingInput (uriEncode (env.jc.dump headers)) (uriEncode (env.jc.dump claims)) ++ [46] ++ uriEncode sig)) := by
  simp only [encodeToken] at h
  generalize signingInput (uriEncode (env.jc.dump headers)) (uriEncode (env.jc.dump claims)) = msg at h ⊢
  by_cases h0 : uriEncodeRet (env.jc.dump headers) = 0 ∨ uriEncodeRet (env.jc.dump claims) = 0
  · simp [h0] at h
  rw [if_neg h0] at h
  refine ⟨(not_or.1 h0).1, (not_or.1 h0).2, ?_⟩
  by_cases ha : alg = .none
  · simp only [ha, if_true, Prod.mk.injEq, Except.ok.injEq] at h
    exact .inl ⟨ha, h.2.symm, h.1.symm⟩
  rcases hk : key with _ | k
  · simp [ha, hk] at h
  rcases hs : sign env k alg msg with ⟨e | sig, tr'⟩
  · simp [ha, hk, hs] at h
  simp only [ha, hk, hs, if_false, Prod.mk.injEq, Except.ok.injEq] at h
  exact .inr ⟨ha, k, sig, rfl, h.2 ▸ hs, h.1.symm⟩

/-- the three arms of `jwt_sign` -/
theorem sign_eq (env : Env) (k : KeyItem) (alg : Alg) (msg : Bytes) :
    sign env k alg msg =
      if alg.isHmac then
        match checkHmac alg k with
        | some e => (.error e, [])
        | none => (.ok (env.cr.hmac alg k.oct msg), [.hmac alg k])
      else if alg.isPk then
        match checkKeyBits alg k with
        | some e => (.error e, [])
        | none =>
          if !env.prov.supports alg then (.error .signFailed, [])
          else match env.cr.pkSign env.prov k alg msg with
            | none => (.error .signFailed, [.pkSign alg k])
            | some s => (.ok s, [.pkSign alg k])
      else (.error .unknownAlg, []) := by
  cases alg <;> rfl

/-- `sign` succeeds only through the gate, and what it returns is the primitive's answer -/
theorem sign_ok (env : Env) (k : KeyItem) (a : Alg) (msg sig : Bytes) (tr : List CryptoCall)
    (h : sign env k a msg = (.ok sig, tr)) :
    strengthOk a k ∧
    ((a.isHmac = true ∧ sig = env.cr.hmac a k.oct msg ∧ tr = [.hmac a k]) ∨
     (a.isPk = true ∧ env.prov.supports a = true ∧ env.cr.pkSign env.prov k a msg = some sig ∧ tr = [.pkSign a k])) := by
  rw [sign_eq] at h
  cases hh : a.isHmac
  · cases hp : a.isPk
    · simp [hh, hp] at h
    · cases hg : checkKeyBits a k <;> cases hs : env.prov.supports a <;> cases hps : env.cr.pkSign env.prov k a msg <;>
        simp [hh, hp, hg, hs, hps] at h
      exact ⟨((checkKeyBits_none_iff a k).1 hg).2, by simp [h.1, h.2]⟩
  · cases hg : checkHmac a k <;> simp [hh, hg] at h
    exact ⟨((checkHmac_none_iff a k).1 hg).2, by simp [h.1, h.2]⟩

/-- below the floor `sign` fails before any primitive is called -/
theorem sign_below (env : Env) (k : KeyItem) (a : Alg) (msg : Bytes) (h : ¬ strengthOk a k) :
    ∃ e, sign env k a msg = (.error e, []) := by
  rw [sign_eq]
  cases a.isHmac
  · cases a.isPk
    · exact ⟨_, rfl⟩
    · cases hg : checkKeyBits a k with
      | some e => exact ⟨e, rfl⟩
      | none => exact absurd ((checkKeyBits_none_iff a k).1 hg).2 h
  · cases hg : checkHmac a k with
    | some e => exact ⟨e, rfl⟩
    | none => exact absurd ((checkHmac_none_iff a k).1 hg).2 h

end Jwt
