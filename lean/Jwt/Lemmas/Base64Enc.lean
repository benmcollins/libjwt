import Jwt.Lemmas.TableFacts
/-! Encoder: the literal three-state machine computes RFC 4648 §5. -/
namespace Jwt.Base64
open Jwt Jwt.Generated

/-! ### bit operations = arithmetic (per byte, by kernel evaluation over all 256 values) -/

theorem shr2_and (c : UInt8) : (c >>> 2) &&& 0x3F = UInt8.ofNat (c.toNat / 4) := by
  revert c; apply forall_u8; decide +kernel
theorem and3_shl4 (c : UInt8) : (c &&& 0x3) <<< 4 = UInt8.ofNat (c.toNat % 4 * 16) := by
  revert c; apply forall_u8; decide +kernel
theorem shr4_and (c : UInt8) : (c >>> 4) &&& 0xF = UInt8.ofNat (c.toNat / 16) := by
  revert c; apply forall_u8; decide +kernel
theorem andF_shl2 (c : UInt8) : (c &&& 0xF) <<< 2 = UInt8.ofNat (c.toNat % 16 * 4) := by
  revert c; apply forall_u8; decide +kernel
theorem shr6_and (c : UInt8) : (c >>> 6) &&& 0x3 = UInt8.ofNat (c.toNat / 64) := by
  revert c; apply forall_u8; decide +kernel
theorem and3F (c : UInt8) : c &&& 0x3F = UInt8.ofNat (c.toNat % 64) := by
  revert c; apply forall_u8; decide +kernel

theorem enc_idx2 (l c : UInt8) :
    ((l &&& 0x3) <<< 4) ||| ((c >>> 4) &&& 0xF) = UInt8.ofNat (l.toNat % 4 * 16 + c.toNat / 16) := by
  rw [and3_shl4, shr4_and]
  exact ofNat_or_add 4 (by have := c.toNat_lt; omega) _
theorem enc_idx3 (l c : UInt8) :
    ((l &&& 0xF) <<< 2) ||| ((c >>> 6) &&& 0x3) = UInt8.ofNat (l.toNat % 16 * 4 + c.toNat / 64) := by
  rw [andF_shl2, shr6_and]
  exact ofNat_or_add 2 (by have := c.toNat_lt; omega) _

/-- every index handed to `base64en[...]` is below 64 = the table length: the table read is in bounds -/
theorem enIdx_lt (l c : UInt8) :
    ((c >>> 2) &&& 0x3F).toNat < base64en.length ∧
    (((l &&& 0x3) <<< 4) ||| ((c >>> 4) &&& 0xF)).toNat < base64en.length ∧
    (((l &&& 0xF) <<< 2) ||| ((c >>> 6) &&& 0x3)).toNat < base64en.length ∧
    (c &&& 0x3F).toNat < base64en.length ∧
    ((l &&& 0x3) <<< 4).toNat < base64en.length ∧ ((l &&& 0xF) <<< 2).toNat < base64en.length := by
  rw [shr2_and, enc_idx2, enc_idx3, and3F, and3_shl4, andF_shl2, base64en_length]
  have := UInt8.toNat_lt c; have := UInt8.toNat_lt l
  simp only [UInt8.toNat_ofNat']
  omega

/-! ### the loop, three bytes at a time -/

/-- same chunking as `sextets`, on bytes (drives the inductions: no bound on the entries is needed) -/
def sextetsB : Bytes → List Nat
  | a :: b :: c :: rest =>
    a.toNat / 4 :: (a.toNat % 4 * 16 + b.toNat / 16) :: (b.toNat % 16 * 4 + c.toNat / 64) :: c.toNat % 64 :: sextetsB rest
  | [a, b] => [a.toNat / 4, a.toNat % 4 * 16 + b.toNat / 16, b.toNat % 16 * 4]
  | [a] => [a.toNat / 4, a.toNat % 4 * 16]
  | [] => []

theorem sextetsB_eq (bs : Bytes) : sextetsB bs = sextets (bs.map (·.toNat)) := by
  fun_induction sextetsB bs <;> simp_all [sextets]

theorem sextetsB_lt (bs : Bytes) : ∀ n ∈ sextetsB bs, n < 64 := by
  fun_induction sextetsB bs
  · rename_i a b c rest ih
    have := a.toNat_lt; have := b.toNat_lt; have := c.toNat_lt
    simp only [List.forall_mem_cons]
    exact ⟨by omega, by omega, by omega, by omega, ih⟩
  · rename_i a b
    have := a.toNat_lt; have := b.toNat_lt
    simp only [List.forall_mem_cons, List.not_mem_nil, false_imp_iff, implies_true, and_true]
    omega
  · rename_i a
    have := a.toNat_lt
    simp only [List.forall_mem_cons, List.not_mem_nil, false_imp_iff, implies_true, and_true]
    omega
  · simp

theorem sextets_length (ns : List Nat) : (sextets ns).length = (ns.length * 4 + 2) / 3 := by
  fun_induction sextets ns <;> simp only [List.length_cons, List.length_nil] <;> omega

/-- **the literal encoder is padded base64 (RFC 4648 §4) over the encode table** -/
theorem encLoop_eq (bs : Bytes) (l : UInt8) :
    encLoop bs 0 l = (sextetsB bs).map (fun n => enAt (UInt8.ofNat n)) ++
      List.replicate ((3 - bs.length % 3) % 3) pad := by
  fun_induction sextetsB bs generalizing l
  · rename_i a b c rest ih
    simp only [encLoop, encStep, List.cons_append, List.nil_append, List.map_cons, List.length_cons]
    rw [shr2_and, enc_idx2, enc_idx3, and3F, ih]
    simp; omega
  · simp [encLoop, encStep, encTail, shr2_and, enc_idx2, andF_shl2]
  · simp [encLoop, encStep, encTail, shr2_and, and3_shl4]
  · rfl

/-- URL-swapped and cut at the first pad, it is unpadded RFC 4648 §5 -/
theorem uriEncode_eq_rfc (bs : Bytes) : uriEncode bs = rfc4648url bs := by
  have h := fun n hn => swapEnc_enAt n (sextetsB_lt bs n hn)
  have e : (sextetsB bs).map (swapEnc ∘ fun n => enAt (UInt8.ofNat n)) = (sextetsB bs).map alphaUrl :=
    List.map_congr_left fun n hn => (h n hn).1
  rw [uriEncode, base64Encode, encLoop_eq, rfc4648url, ← sextetsB_eq, List.map_append, List.map_map,
    List.map_replicate, swapEnc_pad, e, cstr, List.takeWhile_append_of_pos, List.takeWhile_replicate]
  · simp
  · simpa using fun n hn => (h n hn).2

/-- `base64_encode` writes `length + 1` cells, the buffer has `encodeOutSize + 1` -/
theorem base64Encode_length (bs : Bytes) : (base64Encode bs).length = (bs.length + 2) / 3 * 4 := by
  rw [base64Encode, encLoop_eq, sextetsB_eq]
  simp [sextets_length]
  omega

end Jwt.Base64
