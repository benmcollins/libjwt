import Jwt.Verify
import Jwt.Lemmas.AlgFacts
import Jwt.Lemmas.Base64Round
/-! Structural lemmas about the verify pipeline: what acceptance implies, stage by stage. -/
namespace Jwt
open Jwt.Base64

/-! ### splitting at dots -/

theorem splitDot_spec (t a b : Bytes) (h : splitDot t = some (a, b)) : t = a ++ [46] ++ b ∧ (46 : UInt8) ∉ a := by
  induction t generalizing a with
  | nil => simp [splitDot] at h
  | cons c cs ih =>
    unfold splitDot at h
    by_cases hc : c = 46
    · simp [hc] at h
      simp [h, hc]
    · simp only [hc, if_false, Option.map_eq_some_iff, Prod.exists, Prod.mk.injEq] at h
      obtain ⟨a', _, hs, rfl, rfl⟩ := h
      obtain ⟨h1, h2⟩ := ih a' hs
      simp [h1, h2, Ne.symm hc]

theorem splitDot_none (t : Bytes) : splitDot t = none ↔ (46 : UInt8) ∉ t := by
  induction t with
  | nil => simp [splitDot]
  | cons c cs ih =>
    unfold splitDot
    by_cases hc : c = 46
    · simp [hc]
    · simp only [hc, if_false, Option.map_eq_none_iff, ih, List.mem_cons, not_or]
      exact ⟨fun h => ⟨fun e => hc e.symm, h⟩, fun h => h.2⟩

theorem splitDot_append (a b : Bytes) (h : (46 : UInt8) ∉ a) : splitDot (a ++ 46 :: b) = some (a, b) := by
  induction a with
  | nil => simp [splitDot]
  | cons x xs ih =>
    simp only [List.mem_cons, not_or] at h
    have hx : x ≠ 46 := fun e => h.1 e.symm
    simp [splitDot, hx, ih h.2]

/-! ### what a successful parse means -/

/-- the header's `alg` member is a string naming `a` exactly -/
theorem parseHeadAlg_ok (headers : Json) (a : Alg) :
    parseHeadAlg headers = .ok a ↔
      ∃ s, headers.objGet N.alg = some (.str s) ∧ algStr a = some s ∧ a ≠ .inval := by
  unfold parseHeadAlg
  constructor
  · intro h
    split at h
    · rename_i s hs
      by_cases hi : strAlg (some s) = .inval
      · simp [hi] at h
      · simp only [hi, if_false, Except.ok.injEq] at h
        subst h
        exact ⟨s, hs, (strAlg_exact s _ hi).1 rfl, hi⟩
    · simp at h
  · rintro ⟨s, hs, hn, hi⟩
    simp [hs, (strAlg_exact s a hi).2 hn, hi]

theorem parse_ok (jc : JsonCodec) (tok : Bytes) (p : Parsed) :
    parse jc tok = .ok p ↔
      tok = p.head ++ [46] ++ p.payload ++ [46] ++ p.sig ∧ (46 : UInt8) ∉ p.head ∧ (46 : UInt8) ∉ p.payload ∧
      decodeToJson jc p.head = some p.headers ∧ decodeToJson jc p.payload = some p.claims ∧
      parseHeadAlg p.headers = .ok p.alg := by
  constructor
  · intro h
    unfold parse at h
    -- `h` names a result, so no stage failed
    rcases h1 : splitDot tok with _ | ⟨hd, rest⟩
    · simp [h1] at h
    rcases h2 : splitDot rest with _ | ⟨pl, sg⟩
    · simp [h1, h2] at h
    rcases h3 : decodeToJson jc hd with _ | headers
    · simp [h1, h2, h3] at h
    rcases h4 : parseHeadAlg headers with _ | alg
    · simp [h1, h2, h3, h4] at h
    rcases h5 : decodeToJson jc pl with _ | claims
    · simp [h1, h2, h3, h4, h5] at h
    simp only [h1, h2, h3, h4, h5, Except.ok.injEq] at h
    subst h
    obtain ⟨e1, n1⟩ := splitDot_spec _ _ _ h1
    obtain ⟨e2, n2⟩ := splitDot_spec _ _ _ h2
    exact ⟨by simp [e1, e2], n1, n2, h3, h5, h4⟩
  · rintro ⟨rfl, n1, n2, h3, h5, h4⟩
    have h1 := splitDot_append p.head (p.payload ++ 46 :: p.sig) n1
    simp only [parse, List.append_assoc, List.cons_append, List.nil_append, h1,
      splitDot_append p.payload p.sig n2, h3, h4, h5]

/-! ### what acceptance means -/

theorem judge_ok_iff (env : Env) (cl : ClaimCfg) (p : Parsed) (cfg : Config) :
    (judge env cl p cfg).1 = .ok ↔
      setkeyCheck .checker cfg.alg cfg.key = none ∧ claimsFail cl p.claims env.now = false ∧
      configPost cfg p.alg p.sig.length = none ∧
      (p.sig.length = 0 ∨ ∃ k, cfg.key = some k ∧
        (verifySig env k p.alg (signingInput p.head p.payload) p.sig).1 = none) := by
  unfold judge
  cases setkeyCheck .checker cfg.alg cfg.key with
  | some e => simp
  | none =>
    cases claimsFail cl p.claims env.now with
    | true => simp
    | false =>
      cases configPost cfg p.alg p.sig.length with
      | some e => simp
      | none =>
        by_cases hl : p.sig.length = 0
        · simp [hl]
        · cases cfg.key with
          | none => simp [hl]
          | some k =>
            simp only [hl, if_false, false_or, Option.some.injEq, exists_eq_left', true_and]
            cases verifySig env k p.alg (signingInput p.head p.payload) p.sig with
            | mk e tr => cases e <;> simp

/-- the stages an accepted token went through, for the configuration the callback left -/
structure Accepted (env : Env) (c : CheckerCfg) (p : Parsed) : Prop where
  cb : (afterCb c p).1 = 0
  admission : setkeyCheck .checker (afterCb c p).2.alg (afterCb c p).2.key = none
  claims : claimsFail c.claims p.claims env.now = false
  post : configPost (afterCb c p).2 p.alg p.sig.length = none
  sig : p.sig.length = 0 ∨ ∃ k, (afterCb c p).2.key = some k ∧
    (verifySig env k p.alg (signingInput p.head p.payload) p.sig).1 = none

theorem verifyCore_ok_iff (env : Env) (c : CheckerCfg) (t : Bytes) :
    (verifyCore env c t).1 = .ok ↔ ∃ p, parse env.jc t = .ok p ∧ Accepted env c p := by
  unfold verifyCore
  cases parse env.jc t with
  | error e => simp
  | ok p =>
    simp only [Except.ok.injEq, exists_eq_left']
    by_cases hr : (afterCb c p).1 = 0
    · rw [if_neg (not_not_intro hr), judge_ok_iff]
      exact ⟨fun ⟨a, b, c, d⟩ => ⟨hr, a, b, c, d⟩, fun h => ⟨h.admission, h.claims, h.post, h.sig⟩⟩
    · rw [if_pos hr]
      exact ⟨nofun, fun h => absurd h.cb hr⟩

/-! ### the error plumbing around the core -/

/-- how `jwt_checker_verify` reports the way its body ended -/
def Checker.finish (ck : Checker) : Exit → Checker × Nat
  | .direct e => (ck.writeError e, 1)
  | .viaJwt e => ({ ck with error := true, msg := some e }, 1)
  | .ok => ({ ck with error := false, msg := none }, 0)

/-- the way a call ends; a missing or empty token ends it at once -/
def verifyExit (env : Env) (c : CheckerCfg) : Option Bytes → Exit
  | none | some [] => .direct .mustPassToken
  | some t => (verifyCore env c t).1

theorem verify_eq (env : Env) (ck : Checker) (tok : Option Bytes) :
    verify env ck tok = ck.finish (verifyExit env ck.cfg tok) := by
  cases tok with
  | none => rfl
  | some t => cases t <;> rfl

theorem Checker.finish_rc (ck : Checker) (e : Exit) : (ck.finish e).2 = 0 ↔ e = .ok := by
  cases e <;> simp [Checker.finish]

/-- **`jwt_checker_verify` returns 0 exactly for** a token that parses and passes every stage -/
theorem verify_ok_iff (env : Env) (ck : Checker) (tok : Option Bytes) :
    (verify env ck tok).2 = 0 ↔ ∃ t p, tok = some t ∧ parse env.jc t = .ok p ∧ Accepted env ck.cfg p := by
  rw [verify_eq, Checker.finish_rc]
  cases tok with
  | none => simp [verifyExit]
  | some t =>
    cases t with
    | nil => simp [verifyExit, parse, splitDot]
    | cons x xs => simp [verifyExit, verifyCore_ok_iff]

/-- pinning: for an admitted configuration with a key, `configPost` passes exactly the tokens that carry a
signature and name the pinned algorithm -/
theorem configPost_key (cfg : Config) (jalg : Alg) (n : Nat) (k : KeyItem) (hk : cfg.key = some k)
    (hadm : setkeyCheck .checker cfg.alg cfg.key = none) :
    configPost cfg jalg n = none ↔ n ≠ 0 ∧ jalg ≠ .none ∧ jalg = pinned cfg := by
  unfold configPost pinned
  rw [hk]
  by_cases hn : n = 0
  · simp [hn]
  by_cases hj : jalg = .none
  · simp [hn, hj]
  by_cases ha : cfg.alg = .none
  · simp [hn, hj, ha, eq_comm]
  by_cases hkn : k.alg = .none
  · simp [hn, hj, ha, hkn, eq_comm]
  · -- both name an algorithm: admission made them agree
    have : cfg.alg = k.alg := by simpa [setkeyCheck, setkeyCheck.setkeyTable, hk, ha, hkn] using hadm
    simp [hn, hj, hkn, this, eq_comm]

/-- without a key: no explicit alg, token alg `none`, empty signature -/
theorem configPost_nokey (cfg : Config) (jalg : Alg) (n : Nat) (hk : cfg.key = none) :
    configPost cfg jalg n = none ↔ n = 0 ∧ jalg = .none ∧ cfg.alg = .none := by
  unfold configPost
  rw [hk]
  by_cases hn : n = 0 <;> by_cases hj : jalg = .none <;> simp [hn, hj]

/-- what acceptance says about the key in force: pinned algorithm, a signature that verifies -/
theorem Accepted.key {env : Env} {c : CheckerCfg} {p : Parsed} (h : Accepted env c p) {k : KeyItem}
    (hk : (afterCb c p).2.key = some k) :
    p.sig.length ≠ 0 ∧ p.alg ≠ .none ∧ p.alg = pinned (afterCb c p).2 ∧
      (verifySig env k p.alg (signingInput p.head p.payload) p.sig).1 = none := by
  obtain ⟨hn, hj, hpin⟩ := (configPost_key _ _ _ k hk h.admission).1 h.post
  refine ⟨hn, hj, hpin, ?_⟩
  rcases h.sig with hz | ⟨k', hk', hv⟩
  · exact absurd hz hn
  · rw [hk] at hk'; cases hk'; exact hv

end Jwt
