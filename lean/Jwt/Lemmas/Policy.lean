import Jwt.Lemmas.Verify
import Jwt.Generated.GateTables
/-! The strength/family gates, as an explicit rule, and what the crypto trace can contain. -/
namespace Jwt

/-- the documented rule: which key an algorithm may be evaluated with -/
def strengthOk (a : Alg) (k : KeyItem) : Prop :=
  match a with
  | .hs256 => k.kty = .oct ∧ k.bits ≥ 256
  | .hs384 => k.kty = .oct ∧ k.bits ≥ 384
  | .hs512 => k.kty = .oct ∧ k.bits ≥ 512
  | .rs256 | .rs384 | .rs512 | .ps256 | .ps384 | .ps512 => k.kty = .rsa ∧ k.bits ≥ 2048
  | .es256 | .es256k => k.kty = .ec ∧ k.bits = 256
  | .es384 => k.kty = .ec ∧ k.bits = 384
  | .es512 => k.kty = .ec ∧ k.bits = 521
  | .eddsa => k.kty = .okp ∧ (k.bits = 256 ∨ k.bits = 456)
  | .none | .inval => False

/-- **The documented rule is what `jwt.c` tests** (generated from `__check_hmac` / `__check_key_bits`): for
every algorithm and key, `strengthOk` holds exactly when the size test of the algorithm's case lets
`key->bits` through and the key has the type that case hands to `__check_key_type`. A changed floor, a
`>=` turned `>`, a case moved to another type fails here at build time. -/
theorem strengthOk_iff_generated (a : Alg) (k : KeyItem) :
    strengthOk a k ↔ (Generated.gateSize a k.bits ∧ Generated.gateType a = some k.kty) := by
  -- row by row the two sides are the same two facts, in the other order
  have row (t : Kty) (p : Prop) : (k.kty = t ∧ p) ↔ (p ∧ some t = some k.kty) := by
    rw [Option.some.injEq, and_comm, eq_comm]
  cases a <;> first | exact row _ _ | exact ⟨False.elim, fun h => h.1⟩

/-- the rule looks at the key's type and size only -/
theorem strengthOk_congr {a : Alg} {k k' : KeyItem} (ht : k'.kty = k.kty) (hb : k'.bits = k.bits) :
    strengthOk a k' ↔ strengthOk a k := by
  rw [strengthOk_iff_generated, strengthOk_iff_generated, ht, hb]

def Alg.isHmac : Alg → Bool | .hs256 | .hs384 | .hs512 => true | _ => false
def Alg.isPk : Alg → Bool
  | .rs256 | .rs384 | .rs512 | .ps256 | .ps384 | .ps512 | .es256 | .es256k | .es384 | .es512 | .eddsa => true
  | _ => false

/-- a row of either gate: the size test, then `__check_key_type` -/
theorem gateRow (c : Prop) [Decidable c] (k : KeyItem) (t : Kty) :
    (if c then checkKeyType k t else some .keyTooShort) = none ↔ true = true ∧ k.kty = t ∧ c := by
  unfold checkKeyType; split <;> simp [*]

theorem checkHmac_none_iff (a : Alg) (k : KeyItem) : checkHmac a k = none ↔ a.isHmac = true ∧ strengthOk a k := by
  cases a
  case hs256 | hs384 | hs512 => exact gateRow _ k _
  all_goals exact ⟨nofun, nofun⟩

theorem checkKeyBits_none_iff (a : Alg) (k : KeyItem) : checkKeyBits a k = none ↔ a.isPk = true ∧ strengthOk a k := by
  cases a
  case none | hs256 | hs384 | hs512 | inval => exact ⟨nofun, nofun⟩
  all_goals exact gateRow _ k _

theorem strengthOk_family (a : Alg) (k : KeyItem) (h : strengthOk a k) : k.kty = a.family ∧ a.family ≠ .none := by
  cases a <;> first | exact ⟨h.1, nofun⟩ | exact h.elim

theorem Alg.isPk_of_isHmac {a : Alg} (h : a.isHmac = true) : a.isPk = false := by
  cases a <;> first | contradiction | rfl

theorem Alg.family_of_isHmac {a : Alg} (h : a.isHmac = true) : a.family = .oct := by
  cases a <;> first | contradiction | rfl

/-- the three arms of `jwt_verify_sig`, selected by the algorithm's family and by nothing else about it -/
theorem verifySig_eq (env : Env) (k : KeyItem) (alg : Alg) (msg sigB64 : Bytes) :
    verifySig env k alg msg sigB64 =
      if alg.isHmac then
        if k.kty ≠ .oct then (some .sigFailed, [])
        else match checkHmac alg k with
          | some _ => (some .sigFailed, [])
          | none =>
            (if Base64.uriEncodeRet (env.cr.hmac alg k.oct msg) > 0 ∧ jwtStrcmp (Base64.uriEncode (env.cr.hmac alg k.oct msg)) sigB64 = 0
              then none else some .sigFailed, [.hmac alg k])
      else if alg.isPk then
        match checkKeyBits alg k with
        | some e => (some e, [])
        | none =>
          match Base64.uriDecode sigB64 with
          | none => (some .sigDecode, [])
          | some sig =>
            if !env.prov.supports alg then (some .sigFailed, [])
            else (if env.cr.pkVerify env.prov k alg msg sig then none else some .sigFailed, [.pkVerify alg k])
      else (some .unknownAlg, []) := by
  cases alg <;> rfl

/-- acceptance by `jwt_verify_sig`, exactly -/
theorem verifySig_ok_iff (env : Env) (k : KeyItem) (a : Alg) (msg s : Bytes) :
    (verifySig env k a msg s).1 = none ↔ strengthOk a k ∧
      ((a.isHmac = true ∧ Base64.uriEncodeRet (env.cr.hmac a k.oct msg) > 0 ∧
          s = Base64.uriEncode (env.cr.hmac a k.oct msg)) ∨
       (a.isPk = true ∧ env.prov.supports a = true ∧
          ∃ sig, Base64.uriDecode s = some sig ∧ env.cr.pkVerify env.prov k a msg sig = true)) := by
  rw [verifySig_eq]
  cases hh : a.isHmac
  · cases hp : a.isPk
    · simp
    · -- on this arm the rule is the gate
      have hs : strengthOk a k ↔ checkKeyBits a k = none := by simp [checkKeyBits_none_iff, hp]
      rw [hs]
      cases checkKeyBits a k with
      | some e => simp
      | none =>
        cases Base64.uriDecode s with
        | none => simp
        | some sig => cases env.prov.supports a <;> simp
  · have hs : strengthOk a k ↔ checkHmac a k = none := by simp [checkHmac_none_iff, hh]
    -- the type test is subsumed by the gate
    have hk : strengthOk a k → k.kty = .oct := fun h => (strengthOk_family a k h).1.trans (Alg.family_of_isHmac hh)
    rw [hs] at hk ⊢
    cases hc : checkHmac a k with
    | some e => by_cases ho : k.kty = .oct <;> simp [ho]
    | none => simp [hk hc, Alg.isPk_of_isHmac hh, jwtStrcmp_eq_zero_iff, eq_comm (a := s)]

/-- every primitive call `verifySig` makes is for the key and algorithm it was given, after the gate -/
theorem verifySig_trace (env : Env) (k : KeyItem) (a : Alg) (msg s : Bytes) :
    ∀ c ∈ (verifySig env k a msg s).2,
      (c = .hmac a k ∨ c = .pkVerify a k) ∧ strengthOk a k := by
  rw [verifySig_eq]
  cases hh : a.isHmac
  · cases hp : a.isPk
    · simp
    · cases hg : checkKeyBits a k with
      | some e => simp
      | none =>
        cases Base64.uriDecode s with
        | none => simp
        | some sig => cases env.prov.supports a <;> simp [((checkKeyBits_none_iff a k).1 hg).2]
  · by_cases hk : k.kty = .oct
    · cases hg : checkHmac a k with
      | some e => simp [hk]
      | none => simp [hk, ((checkHmac_none_iff a k).1 hg).2]
    · simp [hk]

theorem judge_trace (env : Env) (cl : ClaimCfg) (p : Parsed) (cfg : Config) :
    ∀ c ∈ (judge env cl p cfg).2, ∃ k, cfg.key = some k ∧
      (c = .hmac p.alg k ∨ c = .pkVerify p.alg k) ∧ strengthOk p.alg k := by
  intro c hc
  unfold judge at hc
  split at hc
  · simp at hc
  · split at hc
    · simp at hc
    · split at hc
      · simp at hc
      · split at hc
        · simp at hc
        · split at hc
          · simp at hc
          · rename_i k hk
            have := verifySig_trace env k p.alg (signingInput p.head p.payload) p.sig c
            split at hc <;> rename_i hv <;> simp only [hv] at this <;> exact ⟨k, hk, this hc⟩

theorem verifyCore_trace (env : Env) (c : CheckerCfg) (tok : Bytes) :
    ∀ call ∈ (verifyCore env c tok).2, ∃ p k, parse env.jc tok = .ok p ∧ (afterCb c p).2.key = some k ∧
      (call = .hmac p.alg k ∨ call = .pkVerify p.alg k) ∧ strengthOk p.alg k := by
  intro call hc
  unfold verifyCore at hc
  split at hc
  · simp at hc
  · rename_i p hp
    split at hc
    · simp at hc
    · obtain ⟨k, hk, h⟩ := judge_trace env c.claims p (afterCb c p).2 call hc
      exact ⟨p, k, hp, hk, h⟩

end Jwt
