import Jwt.Ll
/-! The list invariant of `ll.h` over the generated operations, and what the `jwks.c` loops compute. -/
namespace Jwt.Ll

/-- the last element of `p :: l` -/
def lastD : List Addr → Addr → Addr
  | [], p => p
  | x :: xs, _ => lastD xs x

/-- the first element of `l ++ [e]` -/
def firstD : List Addr → Addr → Addr
  | [], e => e
  | x :: _, _ => x

@[simp] theorem lastD_nil (p : Addr) : lastD [] p = p := rfl
@[simp] theorem lastD_cons (x : Addr) (xs : List Addr) (p : Addr) : lastD (x :: xs) p = lastD xs x := rfl
@[simp] theorem firstD_nil (e : Addr) : firstD [] e = e := rfl
@[simp] theorem firstD_cons (x : Addr) (xs : List Addr) (e : Addr) : firstD (x :: xs) e = x := rfl

/-- `p → l₀ → l₁ → … → e` through `next`, and back through `prev` -/
def Linked (h : Heap) : Addr → List Addr → Addr → Prop
  | p, [], e => h.next p = e ∧ h.prev e = p
  | p, x :: xs, e => h.next p = x ∧ h.prev x = p ∧ Linked h x xs e

/-- a well-formed circular list with head node `head` and member nodes `l` (in order) -/
structure IsList (h : Heap) (head : Addr) (l : List Addr) : Prop where
  nodup : (head :: l).Nodup
  valid : ∀ a ∈ head :: l, h.valid a = true
  null : h.valid 0 = false
  linked : Linked h head l head

variable {h h' : Heap} {head p e x n : Addr} {l l1 l2 : List Addr}

theorem lastD_mem (l : List Addr) (p : Addr) : lastD l p ∈ p :: l := by
  induction l generalizing p with
  | nil => simp
  | cons x xs ih => exact List.mem_cons_of_mem _ (ih x)

theorem firstD_mem (l : List Addr) (e : Addr) : firstD l e ∈ e :: l := by
  cases l <;> simp

/-! ## checked loads and stores that hit a live node -/

theorem Heap.getNext_valid (hv : h.valid x = true) : h.getNext x = some (h.next x) := if_pos hv
theorem Heap.getPrev_valid (hv : h.valid x = true) : h.getPrev x = some (h.prev x) := if_pos hv
theorem Heap.setNext_valid (hv : h.valid x = true) (v : Addr) :
    h.setNext x v = some ⟨h.valid, fun a => if a = x then v else h.next a, h.prev⟩ := if_pos hv
theorem Heap.setPrev_valid (hv : h.valid x = true) (v : Addr) :
    h.setPrev x v = some ⟨h.valid, h.next, fun a => if a = x then v else h.prev a⟩ := if_pos hv
theorem Heap.free_valid (hv : h.valid x = true) :
    h.free x = some ⟨fun a => if a = x then false else h.valid a, h.next, h.prev⟩ := if_pos hv

/-! ## segments -/

/-- segments compose -/
theorem Linked.append : Linked h p (l1 ++ x :: l2) e ↔ Linked h p l1 x ∧ Linked h x l2 e := by
  induction l1 generalizing p with
  | nil => simp [Linked, and_assoc]
  | cons z zs ih => simp [Linked, ih, and_assoc]

/-- a segment reads `next` on `p :: l` and `prev` on `l ++ [e]` only -/
theorem Linked.frame (hn : ∀ a ∈ p :: l, h'.next a = h.next a) (hp : ∀ a ∈ l, h'.prev a = h.prev a)
    (he : h'.prev e = h.prev e) (hl : Linked h p l e) : Linked h' p l e := by
  induction l generalizing p with
  | nil => exact ⟨(hn p (by simp)).trans hl.1, he.trans hl.2⟩
  | cons x xs ih =>
    exact ⟨(hn p (by simp)).trans hl.1, (hp x (by simp)).trans hl.2.1,
      ih (fun a ha => hn a (List.mem_cons_of_mem _ ha)) (fun a ha => hp a (List.mem_cons_of_mem _ ha)) hl.2.2⟩

theorem Linked.next_first (hl : Linked h p l e) : h.next p = firstD l e := by
  cases l <;> exact hl.1

theorem Linked.prev_end (hl : Linked h p l e) : h.prev e = lastD l p := by
  induction l generalizing p with
  | nil => exact hl.2
  | cons x xs ih => exact ih hl.2.2

theorem Linked.next_last {h : Heap} {p : Addr} {l : List Addr} {e : Addr} (hl : Linked h p l e) :
    h.next (lastD l p) = e := by
  induction l generalizing p with
  | nil => exact hl.1
  | cons x xs ih => exact ih hl.2.2

/-- the last link of a segment redirected to a new end `w` -/
theorem Linked.retarget {w : Addr} (hl : Linked h p l e) (nd : (p :: l).Nodup)
    (hN : ∀ a ∈ p :: l, h'.next a = if a = lastD l p then w else h.next a)
    (hP : ∀ a ∈ l, h'.prev a = h.prev a) (hw : h'.prev w = lastD l p) : Linked h' p l w := by
  induction l generalizing p with
  | nil => exact ⟨by simpa using hN p, hw⟩
  | cons y ys ih =>
    -- the first node is not the last one
    have hp : p ≠ lastD ys y := fun e' => (List.nodup_cons.1 nd).1 (e' ▸ lastD_mem ys y)
    exact ⟨by rw [hN p (by simp), lastD_cons, if_neg hp, hl.1], by rw [hP y (by simp), hl.2.1],
      ih hl.2.2 (List.nodup_cons.1 nd).2 (fun a ha => hN a (List.mem_cons_of_mem _ ha))
        (fun a ha => hP a (List.mem_cons_of_mem _ ha)) hw⟩

/-- `list_insert n (lastD l p) e`: a node appended at the end of a segment -/
theorem Linked.snoc (hl : Linked h p l e) (nd : (p :: l).Nodup) (hnl : n ∉ p :: l) (hne : n ≠ e) (hel : e ∉ l)
    (hN : ∀ a, h'.next a = if a = lastD l p then n else if a = n then e else h.next a)
    (hP : ∀ a, h'.prev a = if a = n then lastD l p else if a = e then n else h.prev a) :
    Linked h' p (l ++ [n]) e := by
  have hn : ∀ a ∈ p :: l, a ≠ n := fun a ha e' => hnl (e' ▸ ha)
  refine Linked.append.2 ⟨hl.retarget nd (fun a ha => ?_) (fun a ha => ?_) ?_, ?_, ?_⟩
  · rw [hN, if_neg (hn a ha)]
  · rw [hP, if_neg (hn a (List.mem_cons_of_mem _ ha)), if_neg fun e' : a = e => hel (e' ▸ ha)]
  · rw [hP, if_pos rfl]
  · rw [hN, if_neg (hn _ (lastD_mem l p)).symm, if_pos rfl]
  · rw [hP, if_neg hne.symm, if_pos rfl]

/-- `list_join_nodes (lastD l1 p) (firstD l2 e)`: the segment without `x`, whose own fields are not read any more -/
theorem Linked.del (hl : Linked h p (l1 ++ x :: l2) e) (nd : (p :: (l1 ++ l2)).Nodup) (hel : e ∉ l1 ++ l2)
    (hN : ∀ a ∈ p :: (l1 ++ l2), h'.next a = if a = lastD l1 p then firstD l2 e else h.next a)
    (hP : ∀ a ∈ l1 ++ l2, h'.prev a = if a = firstD l2 e then lastD l1 p else h.prev a)
    (hPe : h'.prev e = if e = firstD l2 e then lastD l1 p else h.prev e) :
    Linked h' p (l1 ++ l2) e := by
  obtain ⟨ha, hb⟩ := Linked.append.1 hl
  obtain ⟨ndL, ndR, hd⟩ := (List.nodup_append (l₁ := p :: l1)).1 nd
  have hN1 : ∀ a ∈ p :: l1, _ := fun a ha => hN a (List.mem_append_left l2 ha)
  cases l2 with
  | nil =>
    rw [firstD_nil] at hP hPe
    refine List.append_nil _ ▸ ha.retarget ndL hN1 (fun a ha => ?_) (hPe.trans (if_pos rfl))
    have ha' := List.mem_append_left [] ha
    rw [hP a ha', if_neg fun e' : a = e => hel (e' ▸ ha')]
  | cons w ws =>
    rw [firstD_cons] at hN hP hPe
    have hw : w ∈ l1 ++ w :: ws := List.mem_append_right _ (List.mem_cons_self ..)
    refine Linked.append.2 ⟨ha.retarget ndL hN1 (fun a ha => ?_) ((hP w hw).trans (if_pos rfl)),
      hb.2.2.frame (fun a ha => ?_) (fun a ha => ?_) ?_⟩
    · rw [hP a (List.mem_append_left _ ha), if_neg (hd a (List.mem_cons_of_mem _ ha) w (List.mem_cons_self ..))]
    · rw [hN a (List.mem_cons_of_mem _ (List.mem_append_right _ ha)), if_neg (hd _ (lastD_mem l1 p) a ha).symm]
    · rw [hP a (List.mem_append_right _ (List.mem_cons_of_mem _ ha)),
        if_neg fun e' : a = w => (List.nodup_cons.1 ndR).1 (e' ▸ ha)]
    · rw [hPe, if_neg fun e' : e = w => hel (e' ▸ hw)]

/-- the invariant reads the heap on `head :: l` only -/
theorem IsList.frame (hl : IsList h head l) (hv : ∀ a ∈ head :: l, h'.valid a = true) (h0 : h'.valid 0 = false)
    (hn : ∀ a ∈ head :: l, h'.next a = h.next a) (hp : ∀ a ∈ head :: l, h'.prev a = h.prev a) : IsList h' head l :=
  ⟨hl.nodup, hv, h0, hl.linked.frame hn (fun a ha => hp a (List.mem_cons_of_mem _ ha)) (hp head (by simp))⟩

/-! ## the generated operations on well-formed lists -/

theorem init_eval (hv : h.valid head = true) :
    INIT_LIST_HEAD h head = some ⟨h.valid, fun x => if x = head then head else h.next x,
      fun x => if x = head then head else h.prev x⟩ := by
  simp [INIT_LIST_HEAD, Heap.setNext_valid, Heap.setPrev_valid, hv]

theorem init_ok (h : Heap) (head : Addr) (hv : h.valid head = true) (h0 : h.valid 0 = false) :
    ∃ h', INIT_LIST_HEAD h head = some h' ∧ IsList h' head [] ∧ h'.valid = h.valid :=
  ⟨_, init_eval hv, ⟨by simp, by simp [hv], h0, by simp [Linked]⟩, rfl⟩

theorem insert_eval {pv nx : Addr} (hn : h.valid n = true) (hp : h.valid pv = true) (hx : h.valid nx = true) :
    list_insert h n pv nx = some ⟨h.valid, fun a => if a = pv then n else if a = n then nx else h.next a,
      fun a => if a = n then pv else if a = nx then n else h.prev a⟩ := by
  simp [list_insert, Heap.setNext_valid, Heap.setPrev_valid, hn, hp, hx]

/-- **`list_add_tail` appends.** On a well-formed list, with a live node `n` that is not in it, every
store hits a live node and the result is the well-formed list `l ++ [n]`. -/
theorem add_tail_ok (h : Heap) (head : Addr) (l : List Addr) (n : Addr) (hl : IsList h head l)
    (hv : h.valid n = true) (hn : n ∉ head :: l) :
    ∃ h', list_add_tail h n head = some h' ∧ IsList h' head (l ++ [n]) ∧ h'.valid = h.valid := by
  have hvh := hl.valid head (by simp)
  have hpm : (head :: (l ++ [n])).Perm (n :: head :: l) := by
    simpa using List.perm_middle (a := n) (l₁ := head :: l) (l₂ := [])
  have he : list_add_tail h n head = list_insert h n (lastD l head) head := by
    simp [list_add_tail, Heap.getPrev_valid hvh, hl.linked.prev_end]
  refine ⟨_, he.trans (insert_eval hv (hl.valid _ (lastD_mem l head)) hvh),
    ⟨hpm.nodup_iff.2 (List.nodup_cons.2 ⟨hn, hl.nodup⟩), fun a ha => ?_, hl.null, ?_⟩, rfl⟩
  · rcases List.mem_cons.1 (hpm.mem_iff.1 ha) with rfl | ha
    · exact hv
    · exact hl.valid a ha
  · exact hl.linked.snoc hl.nodup hn (fun e' => hn (by simp [e'])) (List.nodup_cons.1 hl.nodup).1
      (fun _ => rfl) (fun _ => rfl)

theorem join_eval {u w : Addr} (hu : h.valid u = true) (hw : h.valid w = true) :
    list_join_nodes h u w = some ⟨h.valid, fun a => if a = u then w else h.next a,
      fun a => if a = w then u else h.prev a⟩ := by
  simp [list_join_nodes, Heap.setNext_valid, Heap.setPrev_valid, hu, hw]

theorem perm_mid : (head :: (l1 ++ x :: l2)).Perm (x :: head :: (l1 ++ l2)) := List.perm_middle (l₁ := head :: l1)

/-- a member `x` and its neighbours -/
theorem IsList.mid (hl : IsList h head (l1 ++ x :: l2)) :
    x ≠ head ∧ h.valid x = true ∧ h.prev x = lastD l1 head ∧ h.next x = firstD l2 head :=
  have ⟨ha, hb⟩ := Linked.append.1 hl.linked
  ⟨fun e' => (List.nodup_cons.1 hl.nodup).1 (by simp [← e']), hl.valid x (by simp), ha.prev_end, hb.next_first⟩

theorem IsList.valid_lastD (hl : IsList h head (l1 ++ l2)) : h.valid (lastD l1 head) = true :=
  hl.valid _ (List.mem_append_left l2 (lastD_mem l1 head))

theorem IsList.valid_firstD (hl : IsList h head (l1 ++ l2)) : h.valid (firstD l2 head) = true :=
  hl.valid _ (by rcases List.mem_cons.1 (firstD_mem l2 head) with e | hm <;> simp [*])

theorem del_eval {u w : Addr} (hx : h.valid x = true) (hp : h.prev x = u) (hn : h.next x = w)
    (hu : h.valid u = true) (hw : h.valid w = true) :
    list_del h x = some ⟨h.valid, fun a => if a = x then 0 else if a = u then w else h.next a,
      fun a => if a = x then 0 else if a = w then u else h.prev a⟩ := by
  simp [list_del, Heap.getPrev_valid, Heap.getNext_valid, join_eval, Heap.setNext_valid, Heap.setPrev_valid, *]

/-- **`list_del` unlinks exactly the entry.** -/
theorem del_ok (h : Heap) (head : Addr) (l1 : List Addr) (x : Addr) (l2 : List Addr)
    (hl : IsList h head (l1 ++ x :: l2)) :
    ∃ h', list_del h x = some h' ∧ IsList h' head (l1 ++ l2) ∧ h'.valid = h.valid ∧ h'.next x = 0 ∧ h'.prev x = 0 := by
  obtain ⟨hxh, hvx, hprev, hnext⟩ := hl.mid
  have ⟨hx, nd⟩ := List.nodup_cons.1 (perm_mid.nodup_iff.1 hl.nodup)
  have hne : ∀ a ∈ head :: (l1 ++ l2), a ≠ x := fun a ha e' => hx (e' ▸ ha)
  refine ⟨_, del_eval hvx hprev hnext hl.valid_lastD (List.append_cons l1 x l2 ▸ hl).valid_firstD,
    ⟨nd, fun a ha => hl.valid a (perm_mid.mem_iff.2 (List.mem_cons_of_mem _ ha)), hl.null, ?_⟩, rfl, if_pos rfl, if_pos rfl⟩
  exact hl.linked.del nd (List.nodup_cons.1 nd).1 (fun a ha => if_neg (hne a ha))
    (fun a ha => if_neg (hne a (List.mem_cons_of_mem _ ha))) (if_neg hxh.symm)

/-- **A second `list_del` of the same entry dereferences NULL** (the entry's pointers were cleared):
the model refuses it, `jwks.c` never does it because it deletes only nodes it found in the list. -/
theorem del_twice_fails (h : Heap) (x : Addr) (hv : h.valid x = true) (h0 : h.valid 0 = false)
    (hn : h.next x = 0) (hp : h.prev x = 0) : list_del h x = none := by
  simp [list_del, list_join_nodes, Heap.getPrev, Heap.getNext, Heap.setPrev, hv, hn, hp, h0]

/-! ## the loops that only read

`walk` is `list_for_each_entry`; what the other reading loops return is a function of what the walk visits. -/

theorem walkFrom_ok {done rest : List Addr} {fuel : Nat} (hl : IsList h head (done ++ rest)) (hf : rest.length < fuel) :
    walkFrom h head fuel (firstD rest head) = some rest := by
  induction rest generalizing done fuel with
  | nil => match fuel, hf with | f + 1, _ => simp [walkFrom]
  | cons x xs ih =>
    match fuel, hf with
    | f + 1, hf =>
      obtain ⟨hxh, hvx, _, hnx⟩ := hl.mid
      simp [walkFrom, hxh, Heap.getNext_valid hvx, hnx, ih (List.append_cons done x xs ▸ hl) (Nat.lt_of_succ_lt_succ hf)]

theorem IsList.getNext_head (hl : IsList h head l) : h.getNext head = some (firstD l head) :=
  (Heap.getNext_valid (hl.valid head (by simp))).trans (congrArg some hl.linked.next_first)

/-- **`list_for_each_entry` visits exactly the members, in order, and terminates.** -/
theorem walk_ok (h : Heap) (head : Addr) (l : List Addr) (fuel : Nat) (hl : IsList h head l) (hf : l.length < fuel) :
    walk h head fuel = some l := by
  simp [walk, hl.getNext_head, walkFrom_ok (done := []) hl hf]

theorem getFrom_of_walk {pos : Addr} {fuel idx : Nat} (hw : walkFrom h head fuel pos = some l) :
    getFrom h head fuel pos idx = some l[idx]? := by
  induction fuel generalizing pos idx l with
  | zero => cases hw
  | succ f ih =>
    unfold walkFrom at hw; unfold getFrom
    by_cases hp : pos = head
    · rw [if_pos hp] at hw ⊢; cases hw; rfl
    · rw [if_neg hp] at hw ⊢
      obtain ⟨nx, hn, hw⟩ := Option.bind_eq_some_iff.1 hw
      obtain ⟨rest, hr, hl⟩ := Option.bind_eq_some_iff.1 hw
      cases hl
      cases idx with
      | zero => rfl
      | succ i => rw [hn]; exact ih hr

/-- **`jwks_item_get(set, idx)` is `l[idx]?`.** -/
theorem itemGet_ok (h : Heap) (head : Addr) (l : List Addr) (fuel idx : Nat) (hl : IsList h head l)
    (hf : l.length < fuel) : itemGet h head fuel idx = some l[idx]? := by
  simp [itemGet, hl.getNext_head, getFrom_of_walk (walkFrom_ok (done := []) hl hf)]

theorem findFrom_of_walk {view : Addr → ItemView} {kid : List UInt8} {pos : Addr} {fuel : Nat}
    (hw : walkFrom h head fuel pos = some l) :
    findFrom h view head kid fuel pos = some (l.find? fun a => (view a).kid = some kid) := by
  induction fuel generalizing pos l with
  | zero => cases hw
  | succ f ih =>
    unfold walkFrom at hw; unfold findFrom
    by_cases hp : pos = head
    · rw [if_pos hp] at hw ⊢; cases hw; rfl
    · rw [if_neg hp] at hw ⊢
      obtain ⟨nx, hn, hw⟩ := Option.bind_eq_some_iff.1 hw
      obtain ⟨rest, hr, hl⟩ := Option.bind_eq_some_iff.1 hw
      cases hl
      by_cases hk : (view pos).kid = some kid <;> simp [hn, hk, ih hr]

theorem itemFind_ok (h : Heap) (view : Addr → ItemView) (head : Addr) (l : List Addr) (fuel : Nat) (kid : List UInt8)
    (hl : IsList h head l) (hf : l.length < fuel) :
    itemFind h view head fuel kid = some (l.find? (fun a => (view a).kid = some kid)) := by
  simp [itemFind, hl.getNext_head, findFrom_of_walk (walkFrom_ok (done := []) hl hf)]

/-! ## allocation and release -/

/-- between `h` and `h'` exactly the addresses in `S` were released -/
def Released (h h' : Heap) (S : Addr → Prop) : Prop :=
  ∀ a, (S a → h'.valid a = false) ∧ (¬S a → h'.valid a = h.valid a)

theorem Released.refl (h : Heap) : Released h h fun _ => False := fun _ => ⟨False.elim, fun _ => rfl⟩

theorem Released.trans {h1 h2 : Heap} {S T U : Addr → Prop} (r1 : Released h h1 S) (r2 : Released h1 h2 T)
    (hU : ∀ a, U a ↔ S a ∨ T a) : Released h h2 U := fun a => by
  by_cases hT : T a
  · exact ⟨fun _ => (r2 a).1 hT, fun hn => absurd ((hU a).2 (.inr hT)) hn⟩
  · rw [(r2 a).2 hT]
    exact ⟨fun hu => (r1 a).1 (((hU a).1 hu).resolve_right hT), fun hn => (r1 a).2 fun hs => hn ((hU a).2 (.inl hs))⟩

theorem IsList.free_other (hl : IsList h head l) (hx : x ∉ head :: l) (hv : h.valid x = true) :
    ∃ h', h.free x = some h' ∧ IsList h' head l ∧ Released h h' (· = x) := by
  refine ⟨_, Heap.free_valid hv, hl.frame (fun a ha => ?_) ?_ (fun _ _ => rfl) (fun _ _ => rfl),
    fun a => ⟨fun e => if_pos e, fun e => if_neg e⟩⟩
  · exact (if_neg fun e : a = x => hx (e ▸ ha)).trans (hl.valid a ha)
  · simp [hl.null]

theorem IsList.alloc_other (hl : IsList h head l) (ha0 : x ≠ 0) (hv : h.valid x = false) :
    ∃ h', h.alloc x = some h' ∧ IsList h' head l ∧ h'.valid x = true ∧ (∀ b, b ≠ x → h'.valid b = h.valid b) := by
  have hne : ∀ a ∈ head :: l, a ≠ x := fun a ha e => by simp [← e, hl.valid a ha] at hv
  refine ⟨_, if_pos ⟨ha0, hv⟩, hl.frame (fun a ha => ?_) ?_ (fun a ha => if_neg (hne a ha)) (fun a ha => if_neg (hne a ha)),
    if_pos rfl, fun b hb => if_neg hb⟩
  · exact (if_neg (hne a ha)).trans (hl.valid a ha)
  · exact (if_neg ha0.symm).trans hl.null

/-- **`jwks_item_add`.** A freshly allocated item is appended at the end. -/
theorem itemAdd_ok (h : Heap) (head : Addr) (l : List Addr) (a : Addr) (hl : IsList h head l) (ha0 : a ≠ 0)
    (hv : h.valid a = false) :
    ∃ h', itemAdd h head a = some h' ∧ IsList h' head (l ++ [a]) ∧ (∀ b, b ≠ a → h'.valid b = h.valid b) := by
  obtain ⟨h1, e1, l1, v1, o1⟩ := hl.alloc_other ha0 hv
  obtain ⟨h2, e2, l2, v2⟩ := add_tail_ok h1 head l a l1 v1 fun hm => by simp [hl.valid a hm] at hv
  exact ⟨h2, by simp [itemAdd, e1, e2], l2, fun b hb => v2 ▸ o1 b hb⟩

/-- `__item_free` of a member: unlinked, then its memory released -/
theorem itemRelease_ok (hl : IsList h head (l1 ++ x :: l2)) :
    ∃ h', itemRelease h x = some h' ∧ IsList h' head (l1 ++ l2) ∧ Released h h' (· = x) := by
  obtain ⟨h1, e1, il1, v1, _⟩ := del_ok h head l1 x l2 hl
  obtain ⟨h2, e2, il2, r⟩ := il1.free_other (List.nodup_cons.1 (perm_mid.nodup_iff.1 hl.nodup)).1
    (v1 ▸ hl.valid x (by simp))
  exact ⟨h2, by simp [itemRelease, e1, e2], il2, fun a => v1 ▸ r a⟩

/-- **`jwks_item_free(set, idx)`** removes exactly the `idx`-th member (and reports 1), or nothing (0). -/
theorem itemFree_ok (h : Heap) (head : Addr) (l : List Addr) (fuel idx : Nat) (hl : IsList h head l)
    (hf : l.length < fuel) :
    ∃ h', itemFree h head fuel idx = some (h', if idx < l.length then 1 else 0) ∧ IsList h' head (l.eraseIdx idx) ∧
      Released h h' (· ∈ l[idx]?) := by
  have hg := itemGet_ok h head l fuel idx hl hf
  by_cases hi : idx < l.length
  · have hl' : IsList h head (l.take idx ++ l[idx] :: l.drop (idx + 1)) := by
      rwa [List.getElem_cons_drop hi, List.take_append_drop]
    obtain ⟨h', e, il, r⟩ := itemRelease_ok hl'
    rw [List.getElem?_eq_getElem hi] at hg ⊢
    exact ⟨h', by simp [itemFree, hg, e, hi], List.eraseIdx_eq_take_drop_succ .. ▸ il,
      fun a => by simpa only [Option.mem_def, Option.some.injEq, eq_comm] using r a⟩
  · rw [List.getElem?_eq_none (Nat.le_of_not_lt hi)] at hg ⊢
    exact ⟨h, by simp [itemFree, hg, hi], by rwa [List.eraseIdx_of_length_le (Nat.le_of_not_lt hi)],
      fun a => ⟨nofun, fun _ => rfl⟩⟩

/-! ## the loops that release -/

/-- `list_for_each_entry_safe` at `pos = firstD rest head`, with `n = pos->next` read before the body runs;
`done` are the members kept so far -/
theorem freeBadFrom_ok (view : Addr → ItemView) {done rest : List Addr} {fuel : Nat} (c : Nat)
    (hl : IsList h head (done ++ rest)) (hf : rest.length < fuel) :
    ∃ h', freeBadFrom view head fuel h (firstD rest head) (h.next (firstD rest head)) c =
        some (h', c + (rest.filter fun a => (view a).error).length) ∧
      IsList h' head (done ++ rest.filter fun a => !(view a).error) ∧
      Released h h' fun a => a ∈ rest ∧ (view a).error = true := by
  induction rest generalizing done h c fuel with
  | nil => match fuel, hf with | f + 1, _ => exact ⟨h, by simp [freeBadFrom], by simpa using hl, by simpa using Released.refl h⟩
  | cons x xs ih =>
    match fuel, hf with
    | f + 1, hf =>
      obtain ⟨hxh, hvx, _, hnx⟩ := hl.mid
      by_cases hex : (view x).error = true
      · obtain ⟨h2, e2, il2, r2⟩ := itemRelease_ok hl
        obtain ⟨h3, e3, il3, r3⟩ := ih (c + 1) il2 (Nat.lt_of_succ_lt_succ hf)
        refine ⟨h3, ?_, by simpa [hex] using il3, r2.trans r3 fun a => ?_⟩
        · simp [freeBadFrom, hxh, Heap.getNext_valid hvx, hex, e2, hnx, Heap.getNext_valid il2.valid_firstD, e3]; omega
        · by_cases a = x <;> simp [*]
      · have hl' : IsList h head ((done ++ [x]) ++ xs) := List.append_cons done x xs ▸ hl
        obtain ⟨h3, e3, il3, r3⟩ := ih c hl' (Nat.lt_of_succ_lt_succ hf)
        refine ⟨h3, ?_, by simpa [hex] using il3, (Released.refl h).trans r3 fun a => ?_⟩
        · simp [freeBadFrom, hxh, Heap.getNext_valid hvx, hex, hnx, Heap.getNext_valid hl'.valid_firstD, e3]
        · by_cases a = x <;> simp [*]

/-- **`jwks_item_free_bad`** removes exactly the items that carry an error, keeps the others in order,
reports how many it removed, and never touches freed memory (the `_safe` iteration reads the next
pointer before the current item is released). -/
theorem freeBad_ok (h : Heap) (view : Addr → ItemView) (head : Addr) (l : List Addr) (fuel : Nat)
    (hl : IsList h head l) (hf : l.length < fuel) :
    ∃ h', freeBad h view head fuel = some (h', (l.filter (fun a => (view a).error)).length) ∧
      IsList h' head (l.filter (fun a => !(view a).error)) ∧
      (∀ a, a ∈ l → (view a).error = true → h'.valid a = false) ∧
      (∀ a, ¬(a ∈ l ∧ (view a).error = true) → h'.valid a = h.valid a) := by
  have hl' : IsList h head ([] ++ l) := hl
  obtain ⟨h', e, il, r⟩ := freeBadFrom_ok view 0 hl' hf
  refine ⟨h', ?_, il, fun a ha he => (r a).1 ⟨ha, he⟩, fun a hn => (r a).2 hn⟩
  simpa [freeBad, hl.getNext_head, Heap.getNext_valid hl'.valid_firstD] using e

theorem freeAllLoop_ok (head : Addr) (fuel : Nat) (l : List Addr) :
    ∀ (h : Heap) (k i : Nat), IsList h head l → l.length < fuel → l.length < k →
      ∃ h', freeAllLoop head fuel k h i = some (h', i + l.length) ∧ IsList h' head [] ∧ Released h h' (· ∈ l) := by
  induction l with
  | nil =>
    intro h k i hl hf hk
    match k, hk with
    | k + 1, _ =>
      obtain ⟨h', e, il, r⟩ := itemFree_ok h head [] fuel 0 hl hf
      exact ⟨h', by simp [freeAllLoop, e], il, by simpa using r⟩
  | cons x xs ih =>
    intro h k i hl hf hk
    match k, hk with
    | k + 1, hk =>
      obtain ⟨h1, e1, il1, r1⟩ := itemFree_ok h head (x :: xs) fuel 0 hl hf
      obtain ⟨h2, e2, il2, r2⟩ := ih h1 k (i + 1) il1 (Nat.lt_of_succ_lt hf) (Nat.lt_of_succ_lt_succ hk)
      refine ⟨h2, ?_, il2, r1.trans r2 fun a => by simp [eq_comm]⟩
      simp [freeAllLoop, e1, e2]; omega

end Jwt.Ll
