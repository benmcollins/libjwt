import Jwt.Cli
/-! Big-endian octet strings (`toBytesMin`, `exportPad`, `fromBytes`) as numbers. -/
namespace Jwt.Cli

theorem toBytesMin_lt (n : Nat) : ∀ b ∈ toBytesMin n, b < 256 := by
  fun_induction toBytesMin n with
  | case1 => simp
  | case2 n ih =>
    intro b hb
    rcases List.mem_append.1 hb with hb | hb
    · exact ih b hb
    · rw [List.mem_singleton.1 hb]; omega

theorem fromBytes_append (a : List Nat) (b : Nat) : fromBytes (a ++ [b]) = fromBytes a * 256 + b := by
  simp [fromBytes, List.foldl_append]

theorem fromBytes_toBytesMin (n : Nat) : fromBytes (toBytesMin n) = n := by
  fun_induction toBytesMin n with
  | case1 => rfl
  | case2 n ih => rw [fromBytes_append, ih]; omega

/-- the minimal form has at most `w` octets exactly for the numbers below `256 ^ w` -/
theorem toBytesMin_length_le_iff (n w : Nat) : (toBytesMin n).length ≤ w ↔ n < 256 ^ w := by
  fun_induction toBytesMin n generalizing w with
  | case1 => simpa using Nat.pow_pos (n := w) (by decide : 0 < 256)
  | case2 n ih =>
    cases w with
    | zero => simp
    | succ w =>
      rw [List.length_append, List.length_singleton, Nat.add_le_add_iff_right, ih, Nat.pow_succ,
        Nat.div_lt_iff_lt_mul (by decide)]

theorem fromBytes_zeros (k : Nat) (m : List Nat) : fromBytes (List.replicate k 0 ++ m) = fromBytes m := by
  induction k with
  | zero => rfl
  | succ k ih => rw [← ih]; simp [fromBytes, List.replicate_succ]

theorem exportPad_length (w n : Nat) (h : n < 256 ^ w) : (exportPad w n).length = w := by
  have := (toBytesMin_length_le_iff n w).2 h
  simp only [exportPad, List.length_append, List.length_replicate]; omega

theorem fromBytes_exportPad (w n : Nat) : fromBytes (exportPad w n) = n := by
  rw [exportPad, fromBytes_zeros, fromBytes_toBytesMin]

end Jwt.Cli
