import Jwt.Verify
import Jwt.Lemmas.PipelineClosed
/-!
# `__verify_claims` / `__check_str_claim` as modelled = as written
-/
namespace Jwt
open Jwt.Generated

/-- the generated `__verify_claims`, over every combination of its tests: each bit of the returned
mask depends on its own check only -- `exp` fails when it is checked and either read back as an integer in the past or could
not be read for another reason than being absent; `nbf` likewise; the three string claims as `__check_str_claim` says. -/
theorem verifyClaims_closed : ∀ eo ek ex ep no nk nx nf i s a : Bool,
    let r := Pipeline.verifyClaims eo ek ex ep no nk nx nf i s a
    r.2.2.1 = (eo && ((ek && ep) || (!ek && ex))) ∧ r.2.2.2.1 = (no && ((nk && nf) || (!nk && nx))) ∧
    r.2.2.2.2.1 = i ∧ r.2.2.2.2.2.1 = s ∧ r.2.2.2.2.2.2 = a ∧ r.2.1 = false := by
  intro eo ek ex ep no nk nx nf i s a
  simp only [Pipeline.verifyClaims_eq, and_self]

/-- the generated `__check_str_claim`: fails exactly when the claim is checked and (no expected value, or the token's
claim is not a string equal to it) -/
theorem checkStrClaim_closed : ∀ b e g q : Bool,
    (Pipeline.checkStrClaim b e g q).1 = (if b && (e || g || !q) then 1 else 0) := by
  decide +kernel

/-- the tests of `__check_str_claim`, as the model sees them -/
def strClaimGen (on : Bool) (expected claims : Json) (name : Bytes) : Nat × Bool :=
  Pipeline.checkStrClaim on ((expected.objGet name).bind Json.strVal).isNone
    (match claims.objGet name with | some (.str _) => false | _ => true)
    (match (expected.objGet name).bind Json.strVal, claims.objGet name with | some w, some (.str g) => g = w | _, _ => false)

theorem strClaim_generated (on : Bool) (expected claims : Json) (name : Bytes) :
    strClaimFails on expected claims name = decide ((strClaimGen on expected claims name).1 = 1) := by
  simp only [strClaimGen, checkStrClaim_closed, strClaimFails]
  cases on with
  | false => simp
  | true =>
    cases (expected.objGet name).bind Json.strVal with
    | none => simp
    | some w =>
      cases claims.objGet name with
      | none => simp
      | some v => cases v <;> simp

/-- the tests of `__verify_claims`, as the model sees them -/
def verifyClaimsGen (c : ClaimCfg) (claims : Json) (now : Int) : Nat × Bool × Bool × Bool × Bool × Bool × Bool :=
  Pipeline.verifyClaims c.mask.exp
    (match getInt claims N.exp with | .ok _ => true | _ => false) (match getInt claims N.exp with | .noexist => false | _ => true)
    (match getInt claims N.exp with | .ok e => e ≤ now - c.expLeeway | _ => false)
    c.mask.nbf
    (match getInt claims N.nbf with | .ok _ => true | _ => false) (match getInt claims N.nbf with | .noexist => false | _ => true)
    (match getInt claims N.nbf with | .ok n => n > now + c.nbfLeeway | _ => false)
    ((strClaimGen c.mask.iss c.expected claims N.iss).1 = 1) ((strClaimGen c.mask.sub c.expected claims N.sub).1 = 1)
    ((strClaimGen c.mask.aud c.expected claims N.aud).1 = 1)

/-- **`__verify_claims` as modelled = as written**: the model's claims check fails exactly when the generated code sets at
least one bit of its mask, and each of the model's five checks is the corresponding bit. -/
theorem verifyClaims_generated (c : ClaimCfg) (claims : Json) (now : Int) :
    let r := verifyClaimsGen c claims now
    expFails c claims now = r.2.2.1 ∧ nbfFails c claims now = r.2.2.2.1 ∧
    strClaimFails c.mask.iss c.expected claims N.iss = r.2.2.2.2.1 ∧ strClaimFails c.mask.sub c.expected claims N.sub = r.2.2.2.2.2.1 ∧
    strClaimFails c.mask.aud c.expected claims N.aud = r.2.2.2.2.2.2 ∧
    (claimsFail c claims now = (r.2.2.1 || r.2.2.2.1 || r.2.2.2.2.1 || r.2.2.2.2.2.1 || r.2.2.2.2.2.2)) := by
  have e1 : expFails c claims now = (verifyClaimsGen c claims now).2.2.1 := by
    simp only [verifyClaimsGen, Pipeline.verifyClaims_eq, expFails]; cases getInt claims N.exp <;> simp
  have e2 : nbfFails c claims now = (verifyClaimsGen c claims now).2.2.2.1 := by
    simp only [verifyClaimsGen, Pipeline.verifyClaims_eq, nbfFails]; cases getInt claims N.nbf <;> simp
  refine ⟨e1, e2, ?_⟩
  simp only [claimsFail, e1, e2]
  simp only [verifyClaimsGen, Pipeline.verifyClaims_eq, strClaim_generated, and_self]

end Jwt
