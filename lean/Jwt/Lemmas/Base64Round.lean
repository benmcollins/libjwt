import Jwt.Lemmas.Base64Enc
import Jwt.Lemmas.Base64Dec
/-! Round trip and rejection, at the level of the arithmetic specification. -/
namespace Jwt.Base64
open Jwt Jwt.Generated

theorem unsextets_sextetsB (bs : Bytes) : unsextets (sextetsB bs) = bs.map (·.toNat) := by
  fun_induction sextetsB bs
  · rename_i a b c rest ih
    have := a.toNat_lt; have := b.toNat_lt; have := c.toNat_lt
    simp only [unsextets, ih, List.map_cons]
    congr 1; omega
    congr 1; omega
    congr 1; omega
  · rename_i a b
    have := a.toNat_lt; have := b.toNat_lt
    simp only [unsextets, List.map_cons, List.map_nil]
    congr 1; omega
    congr 1; omega
  · rename_i a
    have := a.toNat_lt
    simp only [unsextets, List.map_cons, List.map_nil]
    congr 1; omega
  · rfl

theorem decodeSpec_rfc (bs : Bytes) (hne : bs ≠ []) : decodeSpec (rfc4648url bs) = some bs := by
  have hs := fun v h => urlVal_alphaUrl v (sextetsB_lt bs v h)
  have hlen : (rfc4648url bs).length % 4 ≠ 1 := by
    rw [rfc4648url, List.length_map, sextets_length, List.length_map]; omega
  have htw : (rfc4648url bs).takeWhile (· ≠ 61) = rfc4648url bs := by
    rw [rfc4648url, ← sextetsB_eq]
    simpa using List.takeWhile_append_of_pos (l₂ := []) (p := (· ≠ 61)) (l₁ := (sextetsB bs).map alphaUrl)
      (by simpa using fun v h => (hs v h).2)
  have hm : (rfc4648url bs).mapM urlVal = some (sextetsB bs) := by
    rw [rfc4648url, ← sextetsB_eq, mapM_eq_some, List.map_map]
    exact List.map_congr_left fun v h => (hs v h).1
  rw [decodeSpec, if_neg hlen, htw, hm]
  simp [unsextets_sextetsB, Function.comp_def, hne]

theorem uriDecode_eq_spec (src : Bytes) : uriDecode src = decodeSpec src := by
  unfold uriDecode
  cases hz : padCount src.length with
  | none =>
    have := (padCount_none_iff _).1 hz
    simp [decodeSpec, this]
  | some z =>
    have := (uriDecodeBuf_spec src (List.replicate (decodeAlloc src.length z) 0) z hz (by simp)).2.1
    simp only
    rw [← this]
    cases uriDecodeBuf src (List.replicate (decodeAlloc src.length z) 0) with
    | none => rfl
    | some r => rfl

/-- a successful decode is never empty (`ret_len <= 0` returns NULL) -/
theorem uriDecode_ne_nil (src bin : Bytes) (h : uriDecode src = some bin) : bin ≠ [] := by
  rintro rfl
  rw [uriDecode_eq_spec, decodeSpec] at h
  split at h
  · cases h
  · split at h
    · cases h
    · simp at h

end Jwt.Base64
