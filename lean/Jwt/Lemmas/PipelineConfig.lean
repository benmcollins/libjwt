import Jwt.Checker
import Jwt.Builder
import Jwt.Generated.Pipeline
/-!
# The configuration calls as modelled = their decision skeletons as written

`FUNC(setkey)` and `FUNC(setcb)` of `jwt-common.c` (the template behind `jwt_checker_*` and `jwt_builder_*`),
`jwt_checker_claim_set`, `jwt_checker_claim_del` and the one body of `jwt_checker_time_leeway` / `jwt_builder_time_offset`,
generated into `Jwt/Generated/Pipeline.lean` with flags that say what was stored in the object.
-/
namespace Jwt
open Jwt.Generated

/-- **`jwt_checker_setkey` as modelled = as written**: same return value; algorithm and key are stored exactly when the
generated code stores them -- a refused call leaves the configuration as it was. -/
theorem checker_setkey_generated (ck : Checker) (alg : Alg) (key : Option KeyItem) :
    let r := Pipeline.setkey (setkeyCheck .checker alg key).isSome
    (ck.setkey alg key).2 = r.1 ∧
    (r.2.2 = true → (ck.setkey alg key).1.cfg.alg = alg ∧ (ck.setkey alg key).1.cfg.key = key) ∧
    (r.2.2 = false → (ck.setkey alg key).1.cfg.alg = ck.cfg.alg ∧ (ck.setkey alg key).1.cfg.key = ck.cfg.key) := by
  simp only [Checker.setkey, Pipeline.setkey]
  cases setkeyCheck .checker alg key <;> simp [Checker.writeError]

theorem builder_setkey_generated (b : Builder) (alg : Alg) (key : Option KeyItem) :
    let r := Pipeline.setkey (setkeyCheck .builder alg key).isSome
    (b.setkey alg key).2 = r.1 ∧
    (r.2.2 = true → (b.setkey alg key).1.cfg.alg = alg ∧ (b.setkey alg key).1.cfg.key = key) ∧
    (r.2.2 = false → (b.setkey alg key).1.cfg.alg = b.cfg.alg ∧ (b.setkey alg key).1.cfg.key = b.cfg.key) := by
  simp only [Builder.setkey, Pipeline.setkey]
  cases setkeyCheck .builder alg key <;> simp [Builder.writeError]

/-- **`jwt_checker_setcb` as modelled = as written.** A callback given with its context, or both NULL: stored, returns 0.
A NULL callback with a context: with a callback installed nothing but the context changes (the callback is NOT stored
over), returns 0; without one the call is refused with a message. -/
theorem checker_setcb_generated (ck : Checker) (cb : Option CheckerCb) :
    (Pipeline.setcb false cb.isNone ck.cfg.cb.isNone cb.isNone = (0, false, true) ∧ (ck.setcb cb).2 = 0 ∧ (ck.setcb cb).1.cfg.cb = cb) ∧
    (let r := Pipeline.setcb false true ck.cfg.cb.isNone false
     ck.setcbCtx.2 = r.1 ∧ r.2.2 = false ∧ ck.setcbCtx.1.cfg.cb = ck.cfg.cb ∧ (r.2.1 = true ↔ r.1 = 1) ∧ (ck.setcbCtx.1.error = true ↔ (ck.error = true ∨ r.1 = 1))) := by
  refine ⟨⟨?_, rfl, rfl⟩, ?_⟩
  · cases cb <;> cases ck.cfg.cb <;> simp [Pipeline.setcb]
  · simp only [Checker.setcbCtx, Pipeline.setcb]
    cases h : ck.cfg.cb <;> simp [Checker.writeError, h]

theorem builder_setcb_generated (b : Builder) (cb : Option BuilderCb) :
    (Pipeline.setcb false cb.isNone b.cfg.cb.isNone cb.isNone = (0, false, true) ∧ (b.setcb cb).2 = 0 ∧ (b.setcb cb).1.cfg.cb = cb) ∧
    (let r := Pipeline.setcb false true b.cfg.cb.isNone false
     b.setcbCtx.2 = r.1 ∧ r.2.2 = false ∧ b.setcbCtx.1.cfg.cb = b.cfg.cb ∧ (r.2.1 = true ↔ r.1 = 1)) := by
  refine ⟨⟨?_, rfl, rfl⟩, ?_⟩
  · cases cb <;> cases b.cfg.cb <;> simp [Pipeline.setcb]
  · simp only [Builder.setcbCtx, Pipeline.setcb]
    cases h : b.cfg.cb <;> simp [Builder.writeError, h]

/-- **`jwt_checker_claim_set` as modelled = as written**: same return value; the claim's bit is set in the mask exactly
when the generated code sets it -- as soon as the claim is one of iss/sub/aud and a value was given, *whether or not
storing the value then succeeds* (a failed store leaves the claim checked against nothing: fail closed). -/
theorem checker_claimSet_generated (ck : Checker) (c : ClaimId) (v : Option Bytes) :
    let sf : Nat := match v with | some x => if validUtf8 x then 0 else 1 | none => 0
    let r := Pipeline.checkerClaimSet false v.isNone (checkerClaimName c).isNone sf
    (ck.claimSet c v).2 = r.1 ∧
    (r.2.2 = true → (ck.claimSet c v).1.cfg.claims.mask = ck.cfg.claims.mask.set c true) ∧
    (r.2.2 = false → (ck.claimSet c v).1.cfg.claims.mask = ck.cfg.claims.mask ∧ (ck.claimSet c v).1.cfg.claims.expected = ck.cfg.claims.expected) := by
  simp only [Checker.claimSet, Pipeline.checkerClaimSet]
  cases v with
  | none => simp
  | some x =>
    cases checkerClaimName c with
    | none => simp
    | some name => by_cases hu : validUtf8 x = true <;> simp [hu]

/-- **`jwt_checker_claim_del` as modelled = as written** -/
theorem checker_claimDel_generated (ck : Checker) (c : ClaimId) :
    let r := Pipeline.checkerClaimDel false (checkerClaimName c).isNone 0
    (ck.claimDel c).2 = r.1 ∧
    (r.2.2 = true → (ck.claimDel c).1.cfg.claims.mask = ck.cfg.claims.mask.set c false) ∧
    (r.2.2 = false → (ck.claimDel c).1.cfg.claims.mask = ck.cfg.claims.mask) := by
  simp only [Checker.claimDel, Pipeline.checkerClaimDel]
  cases checkerClaimName c <;> simp

/-- the generated time-span body on a non-NULL object: which field is written, and which way the claim's bit goes -/
theorem timeSpan_eq (e n d : Bool) :
    Pipeline.timeSpan false e n d = (if e || n then 0 else 1, false, e, !e && n, (e || n) && d, (e || n) && !d) := by
  cases e <;> cases n <;> cases d <;> rfl

/-- **`jwt_checker_time_leeway` as modelled = as written**: `secs` is stored as passed (no clamping, no conversion) in the
field of the claim named, and the claim's bit follows `secs <= __DISABLE`; any other claim is refused. -/
theorem checker_timeLeeway_generated (ck : Checker) (c : ClaimId) (secs : Int) :
    let r := Pipeline.timeSpan false (c = .exp) (c = .nbf) (secs ≤ checkerDisable)
    (ck.timeLeeway c secs).2 = r.1 ∧
    (r.2.2.1 = true → (ck.timeLeeway c secs).1.cfg.claims.expLeeway = secs) ∧
    (r.2.2.2.1 = true → (ck.timeLeeway c secs).1.cfg.claims.nbfLeeway = secs) ∧
    (r.2.2.2.2.1 = true → (ck.timeLeeway c secs).1.cfg.claims.mask = ck.cfg.claims.mask.set c false) ∧
    (r.2.2.2.2.2 = true → (ck.timeLeeway c secs).1.cfg.claims.mask = ck.cfg.claims.mask.set c true) := by
  simp only [Checker.timeLeeway, timeSpan_eq]
  -- the comparison enters both sides as a Boolean only
  generalize decide (secs ≤ checkerDisable) = d
  cases c <;> simp +contextual

/-- **`jwt_builder_time_offset` as modelled = as written** (the same body, compiled for the builder): the offset is stored as
passed -- a span of any size a `time_t` holds -- and the claim is switched on exactly when it is positive. -/
theorem builder_timeOffset_generated (b : Builder) (c : ClaimId) (secs : Int) :
    let r := Pipeline.timeSpan false (c = .exp) (c = .nbf) (secs ≤ builderDisable)
    (b.timeOffset c secs).2 = r.1 ∧
    (r.2.2.1 = true → (b.timeOffset c secs).1.cfg.expOff = secs ∧ (b.timeOffset c secs).1.cfg.mask.exp = !(secs ≤ builderDisable)) ∧
    (r.2.2.2.1 = true → (b.timeOffset c secs).1.cfg.nbfOff = secs ∧ (b.timeOffset c secs).1.cfg.mask.nbf = !(secs ≤ builderDisable)) := by
  cases c <;> simp [Builder.timeOffset, timeSpan_eq]

end Jwt
