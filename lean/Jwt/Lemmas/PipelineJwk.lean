import Jwt.Jwk
import Jwt.Lemmas.PipelineClosed
/-!
# JWK import: what each step does to the item, and its decision skeleton as written

First the steps of the model (`Jwt/Jwk.lean`) in closed form: what `process_octet`, the three provider importers and
`jwk_process_values` can make of an item. Then `process_octet`, the dispatch of `jwk_process_one` and `jwk_process_values`
(`jwks.c`) as generated into `Jwt/Generated/Pipeline.lean`, against the model.
-/
namespace Jwt
open Jwt.Generated Jwt.Base64

def kIsStr (j : Option Json) : Bool := match j with | some (.str _) => true | _ => false

theorem bnOf_str (s : Bytes) : bnOf (some (.str s)) = uriDecode s := rfl

theorem bnOf_ne_nil {j : Option Json} {bin : Bytes} (h : bnOf j = some bin) : bin ≠ [] := by
  obtain ⟨s, -, hs⟩ := Option.bind_eq_some_iff.1 h
  exact uriDecode_ne_nil s bin hs

/-- `process_octet` is `set_one_bn` on the member `k`: the empty string it tests for decodes to nothing anyway -/
theorem processOctet_eq (jwk : Json) (it : Item) :
    processOctet jwk it = match bnOf (jwk.objGet [107]) with
      | none => it.fail
      | some bin => { it with isPrivate := true, oct := bin, bits := bin.length * 8 } := by
  unfold processOctet bnOf
  cases (jwk.objGet [107]).bind Json.strVal with
  | none => rfl
  | some s =>
    by_cases hs : s = []
    · rw [hs]; rfl
    · exact if_neg hs

/-! Every way through a provider importer ends in `keyed` (a flagged item is `keyed none`), and all that is written
before is `isPrivate` and `curve`. -/

theorem processEc_keyed (o : KeyOracle) (jwk : Json) (it : Item) :
    ∃ p c r, processEc o jwk it = { it with isPrivate := p, curve := c }.keyed r := by
  fun_cases processEc o jwk it <;> first | exact ⟨_, _, none, rfl⟩ | exact ⟨_, _, _, rfl⟩

theorem processRsa_keyed (o : KeyOracle) (jwk : Json) (it : Item) :
    ∃ p c r, processRsa o jwk it = { it with isPrivate := p, curve := c }.keyed r := by
  fun_cases processRsa o jwk it <;> first | exact ⟨_, _, none, rfl⟩ | exact ⟨_, _, _, rfl⟩

theorem processOkp_keyed (o : KeyOracle) (jwk : Json) (it : Item) :
    ∃ p c r, processOkp o jwk it = { it with isPrivate := p, curve := c }.keyed r := by
  fun_cases processOkp o jwk it <;> first | exact ⟨_, _, none, rfl⟩ | exact ⟨_, _, _, rfl⟩

/-- what follows the `alg` member changes `use`, `key_ops` and -- for a `kid` that is a non-empty string -- the key id,
and nothing else -/
theorem processValues_rest (jwk : Json) (it : Item) :
    ∃ u o, processValues.rest jwk it =
      { it with use := u, keyOps := o,
                kid := match (jwk.objGet [107, 105, 100]).bind Json.strVal with | some s => if s = [] then it.kid else some s | none => it.kid } := by
  unfold processValues.rest
  extract_lets it1 it2
  have h1 : ∃ u, it1 = { it with use := u } := by
    unfold it1; split
    · split <;> exact ⟨_, rfl⟩
    · exact ⟨_, rfl⟩
  have h2 : ∃ u o, it2 = { it with use := u, keyOps := o } := by
    obtain ⟨u, h1⟩ := h1
    unfold it2; split <;> exact ⟨u, _, by rw [h1]⟩
  obtain ⟨u, o, h2⟩ := h2
  refine ⟨u, o, ?_⟩
  cases (jwk.objGet [107, 105, 100]).bind Json.strVal with
  | none => exact h2
  | some s => by_cases hs : s = [] <;> simp [hs, h2]

/-- the model's `jwk_process_values`: an `alg` that is there and is not a string flags the item, and nothing else happens;
otherwise a string `alg` goes through `jwt_str_alg`, and `use`, `key_ops`, `kid` are written as `processValues_rest` says -/
theorem processValues_closed (jwk : Json) (it : Item) :
    ∃ u o, processValues jwk it =
      if (jwk.objGet N.alg).isSome && !kIsStr (jwk.objGet N.alg) then it.fail
      else { it with
        alg := match (jwk.objGet N.alg).bind Json.strVal with | some s => strAlg (some s) | none => it.alg
        use := u, keyOps := o
        kid := match (jwk.objGet [107, 105, 100]).bind Json.strVal with | some s => if s = [] then it.kid else some s | none => it.kid } := by
  unfold processValues
  cases jwk.objGet N.alg with
  | none => exact processValues_rest jwk it
  | some v =>
    cases v with
    | str s => exact processValues_rest jwk { it with alg := strAlg (some s) }
    | _ => exact ⟨0, 0, rfl⟩

/-- the translated `process_octet`, fed with what the model makes of the JWK's `k` member -/
def processOctetGen (jwk : Json) (x1 x2 : Bool) : Nat × Bool :=
  match jwk.objGet [107] with
  | none => Pipeline.processOctet true x1 false x1 x2
  | some (.str s) => Pipeline.processOctet false true false (s = []) (uriDecode s).isNone
  | some _ => Pipeline.processOctet false false false x1 x2

/-- **`process_octet` as modelled = as written**: the item is flagged exactly when the source returns -1 (then with a
message); it returns 0 exactly when `k` is a non-empty string the decoder accepts. -/
theorem processOctet_generated (jwk : Json) (it : Item) (hit : it.error = false) (x1 x2 : Bool) :
    ((processOctet jwk it).error = true ↔ (processOctetGen jwk x1 x2).1 = 1) ∧
    ((processOctetGen jwk x1 x2).1 = 0 ∨ (processOctetGen jwk x1 x2).1 = 1) ∧
    ((processOctetGen jwk x1 x2).2 = true ↔ (processOctetGen jwk x1 x2).1 = 1) := by
  simp only [processOctet, processOctetGen]
  cases hk : jwk.objGet [107] with
  | none => simp [Pipeline.processOctet, Item.fail]
  | some v =>
    cases v with
    | str s =>
      simp only [Option.bind_some, Json.strVal]
      by_cases hs : s = []
      · simp [Pipeline.processOctet, Item.fail, hs]
      · cases hd : uriDecode s <;> simp [Pipeline.processOctet, Item.fail, hs, hit]
    | _ => simp [Pipeline.processOctet, Item.fail, Json.strVal]

/-- what `jwt_strcmp(kty, name) == 0` means on NUL-free strings of the table -/
def ktyIs (kty name : Bytes) : Bool := jwtStrcmp kty name = 0

/-- **The dispatch of `jwk_process_one` is the source's**: with the four comparisons of the generated code fed by
`jwt_strcmp` on the generated kty table's names, the importer the item goes through is the one the model's table lookup
selects (0 = none: unknown kty, the item is flagged with a message). -/
theorem processOne_dispatch (kty : Bytes) :
    (Pipeline.processOne false false false true (ktyIs kty [69, 67]) (ktyIs kty [82, 83, 65]) (ktyIs kty [79, 75, 80]) (ktyIs kty [111, 99, 116])).1
      = (lookup ktyTable kty).getD 0 := by
  simp only [Pipeline.processOne, lookup, ktyTable, ktyIs, List.find?]
  by_cases h1 : jwtStrcmp kty [69, 67] = 0
  · simp [h1]
  · by_cases h2 : jwtStrcmp kty [82, 83, 65] = 0
    · simp [h1, h2]
    · by_cases h3 : jwtStrcmp kty [79, 75, 80] = 0
      · simp [h1, h2, h3]
      · by_cases h4 : jwtStrcmp kty [111, 99, 116] = 0 <;> simp [h1, h2, h3, h4]

/-- a missing or non-string `kty` returns the item flagged with a message before any importer runs; an unknown one too -/
theorem processOne_refusals (a b c d s : Bool) :
    Pipeline.processOne false false true s a b c d = (0, true) ∧ Pipeline.processOne false false false false a b c d = (0, true) ∧
    Pipeline.processOne false false false true false false false false = (0, true) := by
  cases s <;> simp [Pipeline.processOne]

/-- the translated `jwk_process_values`, fed with what the model makes of the JWK's alg / use / key_ops / kid members
(the kid copy is allocated: `kidAllocNull = false`) -/
def processValuesGen (jwk : Json) : Nat × Bool × Bool × Bool × Bool × Bool × Bool :=
  let a := jwk.objGet N.alg
  let u := jwk.objGet [117, 115, 101]
  let o := jwk.objGet [107, 101, 121, 95, 111, 112, 115]
  let k := jwk.objGet [107, 105, 100]
  Pipeline.processValues a.isNone (kIsStr a) u.isNone (kIsStr u)
    (match u.bind Json.strVal with | some s => jwtStrcmp s [115, 105, 103] = 0 | none => false)
    (match u.bind Json.strVal with | some s => jwtStrcmp s [101, 110, 99] = 0 | none => false)
    o.isNone (match o with | some (.arr _) => true | _ => false) k.isNone (kIsStr k)
    (match k.bind Json.strVal with | some s => s = [] | none => true) false

/-- what the generated `jwk_process_values` does, as a function of its tests alone (all 2048 combinations):
a message is written exactly for an `alg` that is there and is not a string -- and then nothing else is looked at; otherwise
alg / use / key_ops / kid are stored exactly under their own conditions, independently of each other (the copy of the
key id is allocated: the last parameter is `false`; C17 treats the other case). -/
theorem processValues_flags : ∀ a b c d e f g h i j k : Bool,
    let r := Pipeline.processValues a b c d e f g h i j k false
    r.1 = 0 ∧ r.2.1 = (!a && !b) ∧ r.2.2.1 = (!a && b) ∧
    (r.2.1 = true → r.2.2.2.1 = false ∧ r.2.2.2.2.1 = false ∧ r.2.2.2.2.2.1 = false ∧ r.2.2.2.2.2.2 = false) ∧
    (r.2.1 = false → r.2.2.2.1 = (!c && d && e) ∧ r.2.2.2.2.1 = (!c && d && !e && f) ∧ r.2.2.2.2.2.1 = (!g && h) ∧
      r.2.2.2.2.2.2 = (!i && j && !k)) := by
  intro a b c d e f g h i j k
  rw [Pipeline.processValues_eq]
  -- the tuple is `(0, w, _, !w && _, …)`: at either value of `w` every conjunct holds by computation
  generalize (!a && !b) = w
  cases w
  · exact ⟨rfl, rfl, rfl, nofun, fun _ => ⟨rfl, rfl, rfl, rfl⟩⟩
  · exact ⟨rfl, rfl, rfl, fun _ => ⟨rfl, rfl, rfl, rfl⟩, nofun⟩

/-- **`jwk_process_values` as modelled = as written**: the item is flagged exactly when the generated code writes a
message, and -- when it does not -- a key id is stored exactly when the generated code stores one (the `kid` member is a
non-empty string), and it is that string. -/
theorem processValues_generated (jwk : Json) (it : Item) (hit : it.error = false) :
    ((processValues jwk it).error = (processValuesGen jwk).2.1) ∧
    ((processValuesGen jwk).2.1 = false →
      ((processValuesGen jwk).2.2.2.2.2.2 = true ↔ ∃ s, (jwk.objGet [107, 105, 100]).bind Json.strVal = some s ∧ s ≠ [] ∧ (processValues jwk it).kid = some s)) := by
  obtain ⟨u, o, e⟩ := processValues_closed jwk it
  simp only [processValuesGen, Pipeline.processValues_eq, Option.not_isNone]
  rw [e]
  cases (jwk.objGet N.alg).isSome && !kIsStr (jwk.objGet N.alg)
  · refine ⟨hit, fun _ => ?_⟩
    simp only [Bool.not_false, Bool.true_and, Bool.false_eq_true, if_false]
    cases jwk.objGet [107, 105, 100] with
    | none => simp
    | some v =>
      cases v with
      | str s => by_cases hs : s = [] <;> simp [kIsStr, Json.strVal, hs]
      | _ => simp [kIsStr, Json.strVal]
  · exact ⟨rfl, nofun⟩

end Jwt
