import Jwt.SetGet
import Jwt.Generated.Pipeline
/-!
# The typed getters and setters as modelled = their decision skeletons as written (`jwt-setget.c`)
-/
namespace Jwt
open Jwt.Generated

def nameNull (n : Option Bytes) : Bool := n.isNone
def nameEmpty (n : Option Bytes) : Bool := n = some []

theorem nameOk_none_iff (n : Option Bytes) : nameOk n = none ↔ (nameNull n = true ∨ nameEmpty n = true) := by
  cases n with
  | none => simp [nameOk, nameNull, nameEmpty]
  | some l => cases l <;> simp [nameOk, nameNull, nameEmpty]

/-- is the stored value of the JSON type a typed get asks for? -/
def isOfType (t : VType) (v : Json) : Bool :=
  match t, v with
  | .int, .int _ => true
  | .str, .str _ => true
  | .bool, .bool _ => true
  | _, _ => false

/-- **`jwt_get_int` / `jwt_get_str` / `jwt_get_bool` as modelled = as written**: the code of a typed get (INVALID for a
missing or empty name, NOEXIST, TYPE, else what `value->error` held on entry -- NONE after `__getter`'s reset). -/
theorem getter_code_generated (which : Json) (name : Option Bytes) :
    ((getter which .int name).1.code =
      (Pipeline.getInt (nameNull name) (nameEmpty name) ((name.bind which.objGet).isNone) (((name.bind which.objGet).map (isOfType .int)).getD false) 0).1) ∧
    ((getter which .str name).1.code =
      (Pipeline.getStr (nameNull name) (nameEmpty name) ((name.bind which.objGet).isNone) (((name.bind which.objGet).map (isOfType .str)).getD false) false 0).1) ∧
    ((getter which .bool name).1.code =
      (Pipeline.getBool (nameNull name) (nameEmpty name) ((name.bind which.objGet).isNone) (((name.bind which.objGet).map (isOfType .bool)).getD false) 0).1) := by
  cases name with
  | none => exact ⟨rfl, rfl, rfl⟩
  | some l =>
    cases l with
    | nil => exact ⟨rfl, rfl, rfl⟩
    | cons c cs =>
      simp only [getter, nameOk, Option.bind_some]
      cases which.objGet (c :: cs) with
      | none => exact ⟨rfl, rfl, rfl⟩
      | some v => cases v <;> exact ⟨rfl, rfl, rfl⟩

/-- **`jwt_obj_check` + `json_object_set_new` as modelled (`checkedSet`) = as written**: the code, and whether an existing
member was deleted first. -/
theorem checkedSet_generated (which : Json) (name : Bytes) (v : Option Json) (replace : Bool) :
    let absent := (which.objGet name).isNone
    let oc := Pipeline.objCheck absent (!replace)
    let storeFails : Bool := match v with | none => true | some _ => !(which.isObject && validUtf8 name)
    (checkedSet which name v replace).2.code =
      (Pipeline.setInt false false (oc.1 = 0) storeFails (if oc.1 = 0 then 0 else oc.1)).1 := by
  simp only [checkedSet, Pipeline.objCheck, Pipeline.setInt]
  -- both sides look at four tests only, and agree on each of their outcomes
  generalize (which.isObject && validUtf8 name) = s
  cases which.objGet name <;> cases replace <;> cases v <;> cases s <;> rfl

end Jwt
