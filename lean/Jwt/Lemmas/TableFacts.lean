import Jwt.Base64
import Jwt.Base64Spec
/-!
# Facts about the *generated* tables and constants (`Jwt/Generated/Base64Tables.lean`)

Every statement here is decided by kernel evaluation over the complete (finite) table; each is a
proof obligation that breaks at `lake build` when a table entry, the pad, the range bounds or a
size macro in `/repo/libjwt/base64.[ch]` changes in a way that matters.
-/
namespace Jwt.Base64
open Jwt Jwt.Generated

/-- a fact about every byte, from its 256 instances: `revert c; apply forall_u8; decide +kernel` -/
theorem forall_u8 {P : UInt8 → Prop} (h : ∀ n, n < 256 → P (UInt8.ofNat n)) : ∀ c, P c := by
  intro c
  have := h c.toNat (UInt8.toNat_lt c)
  simpa using this

theorem base64en_length : base64en.length = 64 := by decide +kernel
theorem base64de_length : base64de.length = 128 := by decide +kernel
theorem pad_eq : pad = 61 := by decide
theorem deFirst_eq : deFirst = 43 := by decide
theorem deLast_eq : deLast = 122 := by decide

/-- `BASE64DE_LAST` indexes inside the decode table: `base64de[(unsigned char)in[i]]` is in bounds -/
theorem deLast_lt_table : deLast.toNat < base64de.length := by decide +kernel
/-- the signed-`char` comparison and the unsigned one reject the same bytes -/
theorem deLast_lt_128 : deLast.toNat < 128 := by decide

/-- the encode table is the RFC 4648 standard alphabet, in order -/
theorem enAt_alphaStd : ∀ n, n < 64 → enAt (UInt8.ofNat n) = alphaStd n := by decide +kernel

/-- after the URL swap it is the RFC 4648 §5 alphabet, and never NUL -/
theorem swapEnc_enAt : ∀ n, n < 64 → swapEnc (enAt (UInt8.ofNat n)) = alphaUrl n ∧ alphaUrl n ≠ 0 := by
  decide +kernel

theorem swapEnc_pad : swapEnc pad = 0 := by decide

/-- decode table ∘ encode table = id -/
theorem deAt_enAt : ∀ n, n < 64 → deAt (enAt (UInt8.ofNat n)) = UInt8.ofNat n := by decide +kernel

/-- The decoder's tests (`= pad`, range, `table ≠ 255`) on a character after the `-_` → `+/` swap, in terms
of `urlVal`: `=` is the only byte mapped to the pad, a foreign byte fails a test, a character of either
alphabet passes both and the table gives its value. -/
theorem decTests (c : UInt8) :
    (swapDec c = pad ↔ c = 61) ∧
    (urlVal c = none → (swapDec c < deFirst || swapDec c > deLast) = true ∨ deAt (swapDec c) = 255) ∧
    ∀ v ∈ urlVal c, (swapDec c < deFirst || swapDec c > deLast) = false ∧
      deAt (swapDec c) = UInt8.ofNat v ∧ UInt8.ofNat v ≠ 255 ∧ v < 64 := by
  revert c; apply forall_u8; decide +kernel

/-- `urlVal` inverts the URL alphabet -/
theorem urlVal_alphaUrl : ∀ n, n < 64 → urlVal (alphaUrl n) = some n ∧ alphaUrl n ≠ 61 := by decide +kernel

/-- `|||` of a multiple of `2^k` and a number below `2^k` is their sum -/
theorem ofNat_or_add (k : Nat) {y : Nat} (h : y < 2 ^ k) (x : Nat) :
    UInt8.ofNat (x * 2 ^ k) ||| UInt8.ofNat y = UInt8.ofNat (x * 2 ^ k + y) := by
  rw [← UInt8.ofNat_or, Nat.mul_comm, Nat.two_pow_add_eq_or_of_lt h]

end Jwt.Base64
