import Jwt.Lemmas.Verdict
import Jwt.Generated.Decisions
/-! The hand-written admission model equals the functions translated from the source. -/
namespace Jwt
open Jwt.Generated

/-- the translated `__setkey_check` for the side, fed with what a (possibly NULL) key pointer shows;
`ka`, `kp` stand for whatever a read through a NULL `key` would yield — the result does not depend on them -/
def setkeyCheckGen (side : Side) (alg : Alg) (key : Option KeyItem) (ka : Alg) (kp : Bool) : Nat × Bool :=
  match side with
  | .builder => setkeyCheckBuilder false key.isNone (key.elim kp (·.isPrivate)) alg (key.elim ka (·.alg))
  | .checker => setkeyCheckChecker false key.isNone (key.elim kp (·.isPrivate)) alg (key.elim ka (·.alg))

/-- Both sides are the same chain of tests: with `verdict` pushed to the leaves of the model the two trees coincide.
(`Option.elim` goes first: left inside a test it hides the test from `ite_not`.) -/
theorem setkeyCheckGen_eq (side : Side) (alg : Alg) (key : Option KeyItem) (ka : Alg) (kp : Bool) :
    setkeyCheckGen side alg key ka kp = verdict (setkeyCheck side alg key) := by
  cases side <;> cases key <;>
    simp only [setkeyCheckGen, Option.isNone_none, Option.isNone_some, Option.elim_none, Option.elim_some] <;>
    simp [setkeyCheckBuilder, setkeyCheckChecker, setkeyCheck, setkeyCheck.setkeyTable, apply_ite verdict]

/-- **`__setkey_check` as modelled = `__setkey_check` as written**, for both compilations (builder,
checker), every algorithm and every key (also NULL, whatever lies behind the NULL pointer): the model
admits exactly when the source returns 0; the source returns 0 or 1; and it has written a message
exactly when it returns 1. -/
theorem setkeyCheck_generated (side : Side) (alg : Alg) (key : Option KeyItem) (ka : Alg) (kp : Bool) :
    (setkeyCheck side alg key = none ↔ (setkeyCheckGen side alg key ka kp).1 = 0) ∧
    ((setkeyCheckGen side alg key ka kp).1 = 0 ∨ (setkeyCheckGen side alg key ka kp).1 = 1) ∧
    ((setkeyCheckGen side alg key ka kp).2 = true ↔ (setkeyCheckGen side alg key ka kp).1 = 1) :=
  setkeyCheckGen_eq .. ▸ verdict_spec _

theorem verifyConfigPost_eq (cfg : Config) (jalg : Alg) (n : Nat) (ka : Alg) :
    verifyConfigPost false cfg.key.isNone n cfg.alg (cfg.key.elim ka (·.alg)) jalg = verdict (configPost cfg jalg n) := by
  obtain ⟨key, calg⟩ := cfg
  cases key <;> simp only [Option.isNone_none, Option.isNone_some, Option.elim_none, Option.elim_some] <;>
    simp [verifyConfigPost, configPost, apply_ite verdict]

/-- **`__verify_config_post` (after the claims passed) as modelled = as written**: same verdict for every
configuration, header algorithm and signature length; a message accompanies every refusal. -/
theorem configPost_generated (cfg : Config) (jalg : Alg) (n : Nat) (ka : Alg) :
    let r := verifyConfigPost false cfg.key.isNone n cfg.alg (cfg.key.elim ka (·.alg)) jalg
    (configPost cfg jalg n = none ↔ r.1 = 0) ∧ (r.1 = 0 ∨ r.1 = 1) ∧ (r.2 = true ↔ r.1 = 1) :=
  verifyConfigPost_eq .. ▸ verdict_spec _

/-- a failing claims check is reported with a message before anything else is looked at -/
theorem configPost_claims_first (k : Bool) (n : Nat) (a b c : Alg) : verifyConfigPost true k n a b c = (1, true) := by
  simp [verifyConfigPost]

end Jwt
