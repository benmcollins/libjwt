import Jwt.Verify
import Jwt.Lemmas.Verdict
import Jwt.Lemmas.PipelineClosed
/-!
# The verification pipeline as modelled = its decision skeleton as written

`Jwt/Generated/Pipeline.lean` is produced from `jwt-verify.c` / `jwt-common.c` on every run: the order of the
tests of `jwt_parse_payload`, `jwt_parse_head`, `jwt_parse`, `jwt_verify_complete` and `jwt_checker_verify`,
which of them end the call, what every exit returns and whether it wrote or copied an error message. Here the
parameters of those skeletons ("atoms": the outcome of a callee, a pointer being NULL) are instantiated with the
corresponding quantities of the hand-written model (`Jwt/Parse.lean`, `Jwt/Verify.lean`), and the model's verdict
is proved equal to the skeleton's. Parameters that stand for something the code does not look at on a given path
(what lies behind a NULL pointer, the outcome of a callee that is not called) are universally quantified.
-/
namespace Jwt
open Jwt.Generated

def jIsString (j : Option Json) : Bool := match j with | some (.str _) => true | _ => false
def jInval (j : Option Json) : Bool := match j with | some (.str a) => strAlg (some a) = .inval | _ => false

/-- the translated `jwt_parse_head`, fed with what the model makes of a header segment -/
def parseHeadGen (jc : JsonCodec) (head : Bytes) (x1 x2 x3 : Bool) : Nat × Bool :=
  match decodeToJson jc head with
  | none => Pipeline.parseHead true x1 x2 x3
  | some hs => Pipeline.parseHead false (hs.objGet N.alg).isNone (jIsString (hs.objGet N.alg)) (jInval (hs.objGet N.alg))

theorem parseHeadGen_none {jc : JsonCodec} {head : Bytes} (h : decodeToJson jc head = none) (x1 x2 x3 : Bool) :
    parseHeadGen jc head x1 x2 x3 = (1, true) := by
  simp [parseHeadGen, h, Pipeline.parseHead]

/-- on a header that decodes, the three tests on the `alg` member are the model's `parseHeadAlg` -/
theorem parseHeadGen_some {jc : JsonCodec} {head : Bytes} {hs : Json} (h : decodeToJson jc head = some hs) (x1 x2 x3 : Bool) :
    parseHeadGen jc head x1 x2 x3 = verdict (refusal (parseHeadAlg hs)) := by
  simp only [parseHeadGen, h, parseHeadAlg]
  cases hs.objGet N.alg with
  | none => rfl
  | some v =>
    cases v with
    | str a => by_cases hi : strAlg (some a) = .inval <;> simp [Pipeline.parseHead, jIsString, jInval, hi]
    | _ => rfl

/-- **`jwt_parse_head` as modelled = as written**: the header segment is taken exactly when the source returns 0;
every refusal has written a message. -/
theorem parseHead_generated (jc : JsonCodec) (head : Bytes) (x1 x2 x3 : Bool) :
    ((∃ hs a, decodeToJson jc head = some hs ∧ parseHeadAlg hs = .ok a) ↔ (parseHeadGen jc head x1 x2 x3).1 = 0) ∧
    ((parseHeadGen jc head x1 x2 x3).1 = 0 ∨ (parseHeadGen jc head x1 x2 x3).1 = 1) ∧
    ((parseHeadGen jc head x1 x2 x3).2 = true ↔ (parseHeadGen jc head x1 x2 x3).1 = 1) := by
  cases hd : decodeToJson jc head with
  | none => simp [parseHeadGen_none hd]
  | some hs => simpa [parseHeadGen_some hd, refusal_eq_none] using verdict_spec (refusal (parseHeadAlg hs))

/-- **`jwt_parse_payload` as modelled = as written** -/
theorem parsePayload_generated (jc : JsonCodec) (payload : Bytes) :
    let r := Pipeline.parsePayload (decodeToJson jc payload).isNone
    ((decodeToJson jc payload).isSome ↔ r.1 = 0) ∧ (r.1 = 0 ∨ r.1 = 1) ∧ (r.2 = true ↔ r.1 = 1) := by
  cases decodeToJson jc payload <;> simp [Pipeline.parsePayload]

/-- the translated `jwt_parse`, fed with what the model makes of the token text (allocation succeeds) -/
def parseGen (jc : JsonCodec) (tok : Bytes) (x1 x2 x3 x4 x5 x6 : Bool) : Nat × Bool :=
  match splitDot tok with
  | none => Pipeline.parse false true x1 x2 x3
  | some (head, rest) =>
    match splitDot rest with
    | none => Pipeline.parse false false true x2 x3
    | some (payload, _) =>
      Pipeline.parse false false false ((parseHeadGen jc head x4 x5 x6).1 ≠ 0)
        ((Pipeline.parsePayload (decodeToJson jc payload).isNone).1 ≠ 0)

/-- **`jwt_parse` as modelled = as written**: the model parses a token exactly when the source returns 0 -- the two
dots are looked for first (in this order), then the header, then the payload; the source returns 0 or 1. -/
theorem parse_generated (jc : JsonCodec) (tok : Bytes) (x1 x2 x3 x4 x5 x6 : Bool) :
    ((∃ p, parse jc tok = .ok p) ↔ (parseGen jc tok x1 x2 x3 x4 x5 x6).1 = 0) ∧
    ((parseGen jc tok x1 x2 x3 x4 x5 x6).1 = 0 ∨ (parseGen jc tok x1 x2 x3 x4 x5 x6).1 = 1) := by
  simp only [parseGen, parse]
  rcases splitDot tok with _ | ⟨head, rest⟩
  · simp [Pipeline.parse]
  simp only
  rcases splitDot rest with _ | ⟨payload, sg⟩
  · simp [Pipeline.parse]
  simp only
  cases hd : decodeToJson jc head with
  | none => simp [Pipeline.parse, parseHeadGen_none hd]
  | some hs =>
    simp only [parseHeadGen_some hd]
    cases parseHeadAlg hs with
    | error e => simp [Pipeline.parse]
    | ok a => cases decodeToJson jc payload <;> simp [Pipeline.parse, Pipeline.parsePayload]

/-- the order of the tests in `jwt_parse`, read off the translated code: a missing first dot is reported whatever
else is wrong with the text, then a missing second dot; header and payload failures leave the message to the callee -/
theorem parse_order (c d e : Bool) :
    Pipeline.parse false true c d e = (1, true) ∧ Pipeline.parse false false true d e = (1, true) ∧
    Pipeline.parse false false false true e = (1, false) ∧ Pipeline.parse false false false false true = (1, false) ∧
    Pipeline.parse false false false false false = (0, false) := by
  simp [Pipeline.parse]

/-- **`jwt_verify_complete` as modelled = as written**: the signature is looked at exactly when the configuration
checks passed and something follows the second dot. -/
theorem verifyComplete_generated (cfgFails : Bool) (n : Nat) :
    (Pipeline.verifyComplete cfgFails (n = 0)).1 = 1 ↔ (cfgFails = false ∧ n ≠ 0) := by
  cases cfgFails <;> by_cases h : n = 0 <;> simp [Pipeline.verifyComplete, h]

/-- what the checker's error flag is once `jwt_verify_complete` has run and its error state was copied back -/
def errFlagOf (x : Exit) : Nat := match x with | .ok => 0 | _ => 1

/-- the translated `jwt_checker_verify`, fed with what the model makes of a call on a non-NULL checker with a
non-empty token (allocations succeed) -/
def checkerVerifyGen (env : Env) (c : CheckerCfg) (t : Bytes) (x : Bool) : Nat × Bool × Bool :=
  match parse env.jc t with
  | .error _ => Pipeline.checkerVerify false false false false true c.cb.isNone false x x 0
  | .ok p =>
    Pipeline.checkerVerify false false false false false c.cb.isNone false ((afterCb c p).1 = 0)
      (setkeyCheck .checker (afterCb c p).2.alg (afterCb c p).2.key).isSome
      (errFlagOf (judge env c.claims p (afterCb c p).2).1)

/-- once the admission check has passed, `judge` never ends on the checker itself -/
theorem judge_not_direct (env : Env) (cl : ClaimCfg) (p : Parsed) (cfg : Config)
    (h : setkeyCheck .checker cfg.alg cfg.key = none) (e : Err) : (judge env cl p cfg).1 ≠ .direct e := by
  simp only [judge, h]
  (repeat' split) <;> simp

/-- **`jwt_checker_verify` as modelled = as written**, for every environment, configuration (with or without a
callback, whatever it does) and non-empty token: the same return value; the per-call object's error state is
copied to the checker exactly on the exits the model marks `viaJwt` / `ok`; the exits the model marks `direct`
are the ones where the source writes to the checker itself (or `__setkey_check` has). -/
theorem checkerVerify_generated (env : Env) (ck : Checker) (t : Bytes) (ht : t ≠ []) (x : Bool) :
    let r := checkerVerifyGen env ck.cfg t x
    (verify env ck (some t)).2 = r.1 ∧
    (r.2.2 = true ↔ ∀ e, (verifyCore env ck.cfg t).1 ≠ .direct e) := by
  cases t with
  | nil => exact absurd rfl ht
  | cons b bs =>
    simp only [verify, verifyCore, checkerVerifyGen, Pipeline.checkerVerify]
    cases parse env.jc (b :: bs) with
    | error e => simp
    | ok p =>
      simp only
      -- only a callback can return non-zero
      have hcb : (afterCb ck.cfg p).1 ≠ 0 → ck.cfg.cb.isNone = false := by
        cases hc : ck.cfg.cb <;> simp [afterCb, hc]
      generalize afterCb ck.cfg p = r at hcb ⊢
      by_cases h0 : r.1 = 0
      · cases hs : setkeyCheck .checker r.2.alg r.2.key with
        | some e => simp [h0, judge, hs]
        | none =>
          cases hx : (judge env ck.cfg.claims p r.2).1 with
          | direct e => exact absurd hx (judge_not_direct env ck.cfg.claims p _ hs e)
          | _ => simp [h0, hx, errFlagOf]
      · simp [h0, hcb h0]

/-- a callback that returns non-zero ends the call with 1 before the key, the claims or the signature are looked
at -- read off the translated code, for every value of everything else -/
theorem checkerVerify_cb_nonzero (a b c : Bool) (n : Nat) :
    Pipeline.checkerVerify false false false false false false false false a n = (1, true, false) ∧
    (∀ cbNull, Pipeline.checkerVerify false false false false true cbNull b c a n = (1, false, true)) := by
  simp [Pipeline.checkerVerify]

/-- the source returns non-zero on every exit that is not the last one, and there it returns the checker's flag -/
theorem checkerVerify_returns (a b c d e f g h i : Bool) (n : Nat) :
    (Pipeline.checkerVerify a b c d e f g h i n).1 = 1 ∨ (Pipeline.checkerVerify a b c d e f g h i n).1 = n := by
  rw [(Pipeline.checkerVerify_closed a b c d e f g h i n).1]
  split <;> simp

end Jwt
