import Jwt.Builder
import Jwt.Lemmas.Verdict
import Jwt.Lemmas.PipelineClosed
/-!
# The generating pipeline as modelled = its decision skeleton as written

Companion of `Jwt/Lemmas/Pipeline.lean` for `jwt_head_setup`, `jwt_encode` (`jwt-encode.c`) and
`jwt_builder_generate` (`FUNC(generate)` of `jwt-common.c`). Allocation failures are not part of this model
(C17 treats them): the corresponding parameters of the generated skeletons are `false`.
-/
namespace Jwt
open Jwt.Generated Jwt.Base64

/-- the two header sets of `jwt_head_setup` -/
def typSet (headers : Json) (alg : Alg) : Json × VErr :=
  if alg ≠ .none then
    (setter (fun _ => none) headers { type := .str, name := some N.typ, strVal := some N.JWT, replace := false })
  else (headers, VErr.none)
def algSet (h : Json) (alg : Alg) : Json × VErr :=
  setter (fun _ => none) h { type := .str, name := some N.alg, strVal := algStr alg, replace := true }

/-- `jwt_head_setup` refuses in the same two places as the model; for an unsigned token the `typ` set is skipped
(`x` = whatever its test would have shown) -/
theorem headSetup_eq (headers : Json) (alg : Alg) (x : Bool) :
    Pipeline.headSetup (alg ≠ .none) (if alg ≠ .none then (typSet headers alg).2 ≠ .none else x) ((typSet headers alg).2 ≠ .exist)
      ((algSet (typSet headers alg).1 alg).2 ≠ .none) = verdict (refusal (headSetup headers alg)) := by
  have hm : headSetup headers alg =
      (let t := typSet headers alg; let a := algSet t.1 alg
       if t.2 ≠ .none ∧ t.2 ≠ .exist then .error .encode else if a.2 ≠ .none then .error .encode else .ok a.1) := rfl
  rw [hm]
  by_cases ha : alg = .none
  · -- nothing was set: `typSet` reports NONE
    simp [Pipeline.headSetup, typSet, ha, apply_ite refusal, apply_ite verdict]
  · by_cases h1 : (typSet headers alg).2 = .none <;> by_cases h2 : (typSet headers alg).2 = .exist <;>
      simp [Pipeline.headSetup, ha, h1, h2, apply_ite refusal, apply_ite verdict]

/-- **`jwt_head_setup` as modelled = as written**: a failing `typ` set is tolerated exactly when the member exists
already; `alg` is set (replacing) afterwards; the source returns 0 exactly when the model yields headers. -/
theorem headSetup_generated (headers : Json) (alg : Alg) (x : Bool) :
    let t := typSet headers alg
    let r := Pipeline.headSetup (alg ≠ .none) (if alg ≠ .none then t.2 ≠ .none else x) (t.2 ≠ .exist) ((algSet t.1 alg).2 ≠ .none)
    ((∃ h, headSetup headers alg = .ok h) ↔ r.1 = 0) ∧ (r.1 = 0 ∨ r.1 = 1) ∧ (r.2 = true ↔ r.1 = 1) := by
  simpa only [headSetup_eq, refusal_eq_none] using verdict_spec (refusal (headSetup headers alg))

/-- the translated `jwt_encode`, fed with what the model makes of headers, claims, algorithm and key -/
def encodeGen (env : Env) (headers claims : Json) (alg : Alg) (key : Option KeyItem) (signRet : Nat) : Nat × Bool :=
  let msg := signingInput (uriEncode (env.jc.dump headers)) (uriEncode (env.jc.dump claims))
  Pipeline.encode false false (uriEncodeRet (env.jc.dump headers) = 0) false (uriEncodeRet (env.jc.dump claims) = 0) false (alg = .none)
    (match key with | none => true | some k => match (sign env k alg msg).1 with | .error _ => true | .ok _ => false) signRet false false

/-- **`jwt_encode` as modelled = as written**: a token comes out exactly when the source returns 0 -- header and payload
serialise and encode to something, and (unless the algorithm is none, where the text ends after the second dot) `jwt_sign`
succeeded. `signRet` is what a failing `jwt_sign` returned (non-zero). -/
theorem encode_generated (env : Env) (headers claims : Json) (alg : Alg) (key : Option KeyItem) (signRet : Nat) (hs : signRet ≠ 0) :
    (∃ t, (encodeToken env headers claims alg key).1 = .ok t) ↔ (encodeGen env headers claims alg key signRet).1 = 0 := by
  simp only [encodeToken, encodeGen, Pipeline.encode]
  by_cases h1 : uriEncodeRet (env.jc.dump headers) = 0
  · simp [h1]
  by_cases h2 : uriEncodeRet (env.jc.dump claims) = 0
  · simp [h1, h2]
  by_cases ha : alg = .none
  · simp [h1, h2, ha]
  cases key with
  | none => simp [h1, h2, ha, hs]
  | some k =>
    -- what is left of either side looks at the outcome of `sign` only
    simp only [h1, h2, ha, or_self, if_false, decide_false, Bool.false_eq_true]
    generalize sign env k alg _ = s
    obtain ⟨r, tr⟩ := s
    cases r <;> simp [hs]

/-- the translated `jwt_builder_generate`, fed with what the model makes of a call on a non-NULL builder (allocations
succeed, the integer sets of iat / nbf / exp go through) -/
def builderGenerateGen (env : Env) (b : BuilderCfg) : Nat × Bool × Bool :=
  let r := genAfterCb b env.now
  let alg := usedAlg r.2.2.2
  Pipeline.builderGenerate false false false false b.mask.iat true b.mask.nbf true b.mask.exp true b.cb.isNone (r.1 ≠ 0)
    (setkeyCheck .builder alg r.2.2.2.key).isSome
    (match headSetup r.2.1 alg with | .error _ => true | .ok _ => false)
    (match headSetup r.2.1 alg with
     | .error _ => 0
     | .ok headers => match (encodeToken env headers r.2.2.1 alg r.2.2.2.key).1 with | .ok _ => 1 | .error _ => 0)

/-- **`jwt_builder_generate` as modelled = as written**, for every environment and configuration (with or without a
callback, whatever it does): a token is returned exactly when the generated skeleton returns non-NULL; the per-token
object's error state is copied to the builder exactly on the exits the model does not mark `direct`. -/
theorem builderGenerate_generated (env : Env) (b : Builder) :
    ((generate env b).2.isSome ↔ (builderGenerateGen env b.cfg).1 ≠ 0) ∧
    ((builderGenerateGen env b.cfg).2.2 = true ↔ ∀ e, (generateCore env b.cfg).1 ≠ .direct e) := by
  simp only [generate, generateCore, builderGenerateGen, Pipeline.builderGenerate_eq]
  -- only a callback can return non-zero
  have hcb : (genAfterCb b.cfg env.now).1 ≠ 0 → b.cfg.cb.isNone = false := by
    cases hc : b.cfg.cb <;> simp [genAfterCb, hc]
  generalize genAfterCb b.cfg env.now = r at hcb ⊢
  by_cases h0 : r.1 = 0
  · cases setkeyCheck .builder (usedAlg r.2.2.2) r.2.2.2.key with
    | some e => simp [h0]
    | none =>
      cases headSetup r.2.1 (usedAlg r.2.2.2) with
      | error e => simp [h0]
      | ok headers =>
        cases he : encodeToken env headers r.2.2.1 (usedAlg r.2.2.2) r.2.2.2.key with
        | mk x tr => cases x <;> simp [h0, he]
  · simp [h0, hcb h0]

/-- in the generated code a callback that is installed and returns non-zero ends the call with NULL and a message on
the builder before the key is looked at; a refused key/algorithm pair ends it before anything is signed -/
theorem builderGenerate_cb_and_key (i n e a b : Bool) (k : Nat) :
    Pipeline.builderGenerate false false false false i true n true e true false true a b k = (0, true, false) ∧
    (∀ cbNull cbNz, ((cbNull = false ∧ cbNz = true) → False) →
      Pipeline.builderGenerate false false false false i true n true e true cbNull cbNz true b k = (0, true, false)) := by
  simp +contextual [Pipeline.builderGenerate_eq]

end Jwt
