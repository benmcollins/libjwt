import Jwt.Lemmas.Builder
import Jwt.Generated.Pipeline
/-!
# `jwt_sign`, `_verify_sha_hmac`, `jwt_verify_sig` as modelled = as written (`jwt.c`)
-/
namespace Jwt
open Jwt.Generated Jwt.Base64

def algIsHmac (a : Alg) : Bool := match a with | .hs256 | .hs384 | .hs512 => true | _ => false
def algIsPk (a : Alg) : Bool :=
  match a with
  | .rs256 | .rs384 | .rs512 | .ps256 | .ps384 | .ps512 | .es256 | .es256k | .es384 | .es512 | .eddsa => true
  | _ => false

theorem algIsHmac_eq : algIsHmac = Alg.isHmac := by funext a; cases a <;> rfl
theorem algIsPk_eq : algIsPk = Alg.isPk := by funext a; cases a <;> rfl

/-- the generated dispatch over every combination of its tests: in both arms the size-and-type gate is asked first and a
refusal ends the call before the primitive is touched; an algorithm of neither arm is an error -/
theorem sign_closed : ∀ h p g f : Bool,
    (Pipeline.sign h p g f).1 = (if (h || p) && !g && !f then 0 else 1) ∧
    ((h || p) = true → g = true → Pipeline.sign h p g f = (1, false)) := by
  decide +kernel

theorem verifySig_closed : ∀ h p o m g d f : Bool,
    (Pipeline.verifySig h p o m g d f).2 = (if h then (o || m) else if p then (!g && (d || f)) else true) := by
  decide +kernel

/-- the tests of `jwt_verify_sig`, as the model sees them -/
def verifySigGen (env : Env) (k : KeyItem) (alg : Alg) (msg sigB64 : Bytes) : Nat × Bool :=
  Pipeline.verifySig (algIsHmac alg) (algIsPk alg) (k.kty ≠ .oct)
    ((checkHmac alg k).isSome || !(uriEncodeRet (env.cr.hmac alg k.oct msg) > 0 ∧ jwtStrcmp (uriEncode (env.cr.hmac alg k.oct msg)) sigB64 = 0))
    (checkKeyBits alg k).isSome (uriDecode sigB64).isNone
    (match uriDecode sigB64 with | some sig => !env.prov.supports alg || !env.cr.pkVerify env.prov k alg msg sig | none => true)

/-- **`jwt_verify_sig` as modelled = as written**: the model reports a failure exactly when the generated code writes its
message or -- on the public-key arm -- the gate refused the key (and wrote its own). -/
theorem verifySig_generated (env : Env) (k : KeyItem) (alg : Alg) (msg sigB64 : Bytes) :
    (verifySig env k alg msg sigB64).1.isSome =
      ((verifySigGen env k alg msg sigB64).2 || (algIsPk alg && (checkKeyBits alg k).isSome)) := by
  simp only [verifySigGen, verifySig_closed, verifySig_eq, algIsHmac_eq, algIsPk_eq]
  cases hh : alg.isHmac
  · cases alg.isPk
    · simp
    · cases checkKeyBits alg k <;> cases uriDecode sigB64 <;> cases env.prov.supports alg <;> simp [apply_ite Option.isSome]
  · by_cases hk : k.kty = .oct <;> cases checkHmac alg k <;> simp [hk, apply_ite Option.isSome, Alg.isPk_of_isHmac hh]

/-- the tests of `jwt_sign`, as the model sees them -/
def signGen (env : Env) (k : KeyItem) (alg : Alg) (msg : Bytes) : Nat × Bool :=
  Pipeline.sign (algIsHmac alg) (algIsPk alg)
    (if algIsHmac alg then (checkHmac alg k).isSome else (checkKeyBits alg k).isSome)
    (if algIsHmac alg then false else (!env.prov.supports alg || (env.cr.pkSign env.prov k alg msg).isNone))

/-- **`jwt_sign` as modelled = as written**: a signature comes out exactly when the generated code returns 0 -/
theorem sign_generated (env : Env) (k : KeyItem) (alg : Alg) (msg : Bytes) :
    (∃ s, (sign env k alg msg).1 = .ok s) ↔ (signGen env k alg msg).1 = 0 := by
  simp only [signGen, (sign_closed _ _ _ _).1, sign_eq, algIsHmac_eq, algIsPk_eq]
  cases alg.isHmac
  · cases alg.isPk
    · simp
    · cases checkKeyBits alg k <;> cases env.prov.supports alg <;> cases env.cr.pkSign env.prov k alg msg <;> simp
  · cases checkHmac alg k <;> simp

end Jwt
