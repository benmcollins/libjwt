import Jwt.Generated.JwksLoops
import Jwt.Lemmas.Ll
/-!
# The translated keyring functions of `jwks.c` are the loops the keyring theorems are about

`Jwt/Generated/JwksLoops.lean` is produced from the C text on every run; `Jwt/Ll.lean` is what
`Jwt/Lemmas/Ll.lean` and `Jwt/Props/C16Heap.lean` reason about. Each lemma here says the two are the same
function (for `jwks_item_count` and `jwks_error_any`, which the model expresses through the walk, what they
return on a well-formed list). When `jwks.c` changes shape the generated file changes and these proofs are
re-checked against it.

Every loop lemma is the same induction on the fuel: unfold both sides once, agree at `pos = head`, and after
the load of `pos->next` compare the bodies.
-/
namespace Jwt.Ll

theorem src_item_free (h : Heap) (a : Addr) : Src.item_free h a = itemRelease h a := by
  simp [Src.item_free, itemRelease]

theorem src_get_loop (h : Heap) (head : Addr) (index fuel : Nat) (pos : Addr) (i : Nat) (hi : i ≤ index) :
    Src.jwks_item_get_loop h head index fuel pos i = getFrom h head fuel pos (index - i) := by
  induction fuel generalizing pos i with
  | zero => rfl
  | succ f ih =>
    unfold Src.jwks_item_get_loop getFrom
    refine ite_congr rfl (fun _ => rfl) fun _ => ?_
    by_cases he : i = index
    · rw [if_pos he, he, Nat.sub_self, if_pos rfl]; rfl
    · -- the translation counts `i` up to `index`, the model counts the distance down to 0
      rw [if_neg he, if_neg (show index - i ≠ 0 by omega), show index - i - 1 = index - (i + 1) by omega]
      exact bind_congr fun nx => ih nx (i + 1) (by omega)

theorem src_get (h : Heap) (head : Addr) (index fuel : Nat) :
    Src.jwks_item_get h head index fuel = itemGet h head fuel index := by
  cases hn : h.getNext head <;> simp [Src.jwks_item_get, itemGet, hn, src_get_loop]

theorem src_find_loop (h : Heap) (view : Addr → ItemView) (head : Addr) (kid : List UInt8) (fuel : Nat) (pos : Addr) :
    Src.jwks_find_bykid_loop h view head kid fuel pos = findFrom h view head kid fuel pos := by
  induction fuel generalizing pos with
  | zero => rfl
  | succ f ih =>
    unfold Src.jwks_find_bykid_loop findFrom
    refine ite_congr rfl (fun _ => rfl) fun _ => ?_
    cases h.getNext pos with
    | none => rfl
    | some nx => by_cases hk : (view pos).kid = some kid <;> simp [hk, ih]

theorem src_find (h : Heap) (view : Addr → ItemView) (head : Addr) (kid : List UInt8) (fuel : Nat) :
    Src.jwks_find_bykid h view head kid fuel = itemFind h view head fuel kid := by
  cases hn : h.getNext head <;> simp [Src.jwks_find_bykid, itemFind, hn, src_find_loop]

/-- what `jwks_item_free` does once the walk has answered -/
def freeAfter (h : Heap) : Option Addr → Option (Heap × Nat)
  | none => some (h, 0)
  | some a => (itemRelease h a).map fun h' => (h', 1)

theorem src_free_loop (head : Addr) (index : Nat) (h : Heap) (fuel : Nat) (pos : Addr) (i : Nat) :
    Src.jwks_item_free_loop head index fuel h pos none i =
      (Src.jwks_item_get_loop h head index fuel pos i).bind (freeAfter h) := by
  induction fuel generalizing pos i with
  | zero => rfl
  | succ f ih =>
    unfold Src.jwks_item_free_loop Src.jwks_item_get_loop
    by_cases hp : pos = head
    · rw [if_pos hp, if_pos hp]; rfl
    · rw [if_neg hp, if_neg hp]
      by_cases he : i = index
      · rw [if_pos he, if_pos he]
        cases hr : itemRelease h pos <;> simp [freeAfter, src_item_free, hr]
      · rw [if_neg he, if_neg he]
        exact (bind_congr fun nx => ih nx (i + 1)).trans (Option.bind_assoc ..).symm

theorem itemFree_eq (h : Heap) (head : Addr) (fuel idx : Nat) :
    itemFree h head fuel idx = (itemGet h head fuel idx).bind (freeAfter h) := by
  refine congrArg _ (funext fun r => ?_)
  rcases r with _ | a
  · rfl
  · cases hr : itemRelease h a <;> simp [freeAfter, hr]

theorem src_free (h : Heap) (head : Addr) (index fuel : Nat) :
    Src.jwks_item_free h head false index fuel = itemFree h head fuel index := by
  cases hn : h.getNext head <;>
    simp [Src.jwks_item_free, itemFree_eq, itemGet, hn, src_free_loop, src_get_loop _ _ _ _ _ 0 (Nat.zero_le _)]

theorem src_free_bad_loop (view : Addr → ItemView) (head : Addr) (fuel : Nat) (h : Heap) (pos n : Addr) (count : Nat) :
    Src.jwks_item_free_bad_loop view head fuel h pos n count = freeBadFrom view head fuel h pos n count := by
  induction fuel generalizing h pos n count with
  | zero => rfl
  | succ f ih =>
    unfold Src.jwks_item_free_bad_loop freeBadFrom
    refine ite_congr rfl (fun _ => rfl) fun _ => bind_congr fun _ => ?_
    cases (view pos).error <;> simp [ih, src_item_free]

theorem src_free_bad (h : Heap) (view : Addr → ItemView) (head : Addr) (fuel : Nat) :
    Src.jwks_item_free_bad h view head fuel = freeBad h view head fuel := by
  simp [Src.jwks_item_free_bad, freeBad, src_free_bad_loop]

theorem src_free_all_loop (head : Addr) (fuel k : Nat) (h : Heap) (i : Nat) :
    Src.jwks_item_free_all_loop head fuel k h i = freeAllLoop head fuel k h i := by
  induction k generalizing h i with
  | zero => rfl
  | succ k ih =>
    unfold Src.jwks_item_free_all_loop freeAllLoop
    rw [src_free]
    rcases itemFree h head fuel 0 with _ | ⟨h', r⟩
    · rfl
    · by_cases hr : r = 0 <;> simp [hr, ih]

theorem src_free_all (h : Heap) (head : Addr) (fuel : Nat) :
    Src.jwks_item_free_all h head false fuel = freeAllLoop head fuel fuel h 0 := by
  simp [Src.jwks_item_free_all, src_free_all_loop]

/-- `jwks_item_count`: the number of nodes the walk visits -/
theorem src_count_loop (h : Heap) (head : Addr) (fuel : Nat) (pos : Addr) (c : Nat) :
    Src.jwks_item_count_loop h head fuel pos c = (walkFrom h head fuel pos).map fun l => c + l.length := by
  induction fuel generalizing pos c with
  | zero => rfl
  | succ f ih =>
    unfold Src.jwks_item_count_loop walkFrom
    by_cases hp : pos = head
    · rw [if_pos hp, if_pos hp]; rfl
    · rw [if_neg hp, if_neg hp]
      rcases h.getNext pos with _ | nx
      · rfl
      · simp only [Option.bind_some, Option.bind_eq_bind, ih]
        cases walkFrom h head f nx <;> simp; omega

theorem src_count (h : Heap) (head : Addr) (fuel : Nat) :
    Src.jwks_item_count h head fuel = (walk h head fuel).map List.length := by
  cases hn : h.getNext head <;> simp [Src.jwks_item_count, walk, hn, src_count_loop]

/-- `jwks_error_any`: the set's own flag plus the number of visited items whose error flag is set -/
theorem src_error_any_loop (h : Heap) (view : Addr → ItemView) (head : Addr) (se fuel : Nat) (pos : Addr) (c : Nat) :
    Src.jwks_error_any_loop h view head se fuel pos c =
      (walkFrom h head fuel pos).map fun l => c + (l.filter fun a => (view a).error).length := by
  induction fuel generalizing pos c with
  | zero => rfl
  | succ f ih =>
    unfold Src.jwks_error_any_loop walkFrom
    by_cases hp : pos = head
    · rw [if_pos hp, if_pos hp]; rfl
    · rw [if_neg hp, if_neg hp]
      rcases h.getNext pos with _ | nx
      · rfl
      · cases hb : (view pos).error <;> simp only [Option.bind_some, Option.bind_eq_bind, ih] <;>
          cases walkFrom h head f nx <;> simp [hb]; omega

theorem src_error_any (h : Heap) (view : Addr → ItemView) (head : Addr) (se fuel : Nat) :
    Src.jwks_error_any h view head se fuel =
      (walk h head fuel).map fun l => se + (l.filter fun a => (view a).error).length := by
  cases hn : h.getNext head <;> simp [Src.jwks_error_any, walk, hn, src_error_any_loop]

/-- `jwks_item_add` is `list_add_tail` of the new item's node -/
theorem src_add (h : Heap) (head a : Addr) :
    (h.alloc a).bind (fun h => Src.jwks_item_add h head a) = (itemAdd h head a).map fun h' => (h', 0) := by
  unfold Src.jwks_item_add itemAdd
  cases h.alloc a with
  | none => rfl
  | some h1 => cases h : list_add_tail h1 a head <;> simp [h]

end Jwt.Ll
