import Jwt.Json
/-! A JSON object as a finite map: `objGet` after each of the operations that build objects, and
the fact that none of them changes whether a value is an object. -/
namespace Jwt.Json

theorem isObject_iff {j : Json} : j.isObject = true ↔ ∃ kvs, j = .obj kvs := by
  cases j <;> simp [isObject]

@[simp] theorem isObject_objSet (j : Json) (k : Bytes) (v : Json) : (j.objSet k v).isObject = j.isObject := by
  cases j <;> rfl

@[simp] theorem isObject_objDel (j : Json) (k : Bytes) : (j.objDel k).isObject = j.isObject := by
  cases j <;> rfl

@[simp] theorem isObject_objClear (j : Json) : j.objClear.isObject = j.isObject := by
  cases j <;> rfl

@[simp] theorem isObject_objUpdate (j d : Json) : (j.objUpdate d).isObject = j.isObject := by
  cases d with
  | obj kvs =>
    exact List.foldlRecOn (motive := fun b : Json => b.isObject = j.isObject) kvs _ rfl
      fun b hb p _ => (isObject_objSet b p.1 p.2).trans hb
  | _ => rfl

@[simp] theorem isObject_objUpdateMissing (j d : Json) : (j.objUpdateMissing d).isObject = j.isObject := by
  cases d with
  | obj kvs =>
    refine List.foldlRecOn (motive := fun b : Json => b.isObject = j.isObject) kvs _ rfl fun b hb p _ => ?_
    split
    · exact hb
    · exact (isObject_objSet b p.1 p.2).trans hb
  | _ => rfl

theorem find_filter_ne (l : List (Bytes × Json)) (k k' : Bytes) :
    (l.filter (·.1 ≠ k)).find? (·.1 = k') = if k' = k then none else l.find? (·.1 = k') := by
  rw [List.find?_filter]
  split
  · next h => subst h; simp
  · next h =>
    congr 1; funext a
    by_cases ha : a.1 = k' <;> simp [ha, h]

theorem objGet_objDel (j : Json) (k k' : Bytes) :
    (j.objDel k).objGet k' = if k' = k then none else j.objGet k' := by
  cases j with
  | obj kvs => simp only [objDel, objGet, find_filter_ne]; split <;> rfl
  | _ => exact (ite_self _).symm

theorem objGet_objSet {j : Json} (h : j.isObject = true) (k k' : Bytes) (v : Json) :
    (j.objSet k v).objGet k' = if k' = k then some v else j.objGet k' := by
  obtain ⟨kvs, rfl⟩ := isObject_iff.1 h
  simp only [objSet, objGet, List.find?_append, find_filter_ne]
  by_cases hk : k' = k
  · simp [hk]
  · simp [hk, Ne.symm hk]

/-- `objSet` drops the old member itself, so a delete before it changes nothing -/
theorem objSet_objDel (j : Json) (k : Bytes) (v : Json) : (j.objDel k).objSet k v = j.objSet k v := by
  cases j with
  | obj kvs => simp [objDel, objSet, List.filter_filter]
  | _ => rfl

theorem objGet_objClear (j : Json) (k : Bytes) : j.objClear.objGet k = none := by
  cases j <;> rfl

theorem objGet_obj_cons (e : Bytes × Json) (rest : List (Bytes × Json)) (k : Bytes) :
    (Json.obj (e :: rest)).objGet k = if e.1 = k then some e.2 else (Json.obj rest).objGet k := by
  by_cases h : e.1 = k <;> simp [objGet, h]

/-- `json_object_update_missing`: the members already there win -/
theorem objGet_objUpdateMissing {j : Json} (h : j.isObject = true) (d : Json) (k : Bytes) :
    (j.objUpdateMissing d).objGet k = (j.objGet k).or (d.objGet k) := by
  cases d with
  | obj kvs =>
    simp only [objUpdateMissing]
    induction kvs generalizing j with
    | nil => exact Option.or_none.symm
    | cons e rest ih =>
      rw [List.foldl_cons, objGet_obj_cons]
      by_cases hex : (j.objGet e.1).isSome = true
      · rw [if_pos hex, ih h]
        by_cases hk : e.1 = k
        · rw [← hk, Option.or_of_isSome hex, Option.or_of_isSome hex]
        · rw [if_neg hk]
      · rw [if_neg hex, ih ((isObject_objSet ..).trans h), objGet_objSet h]
        by_cases hk : e.1 = k
        · rw [if_pos hk, if_pos hk.symm, ← hk, Option.not_isSome_iff_eq_none.1 hex]; rfl
        · rw [if_neg hk, if_neg (Ne.symm hk)]
  | _ => exact Option.or_none.symm

/-- `json_object_update`: the members of the other object win (a repeated name there would make
the last one win, `find?` the first: hence distinct names) -/
theorem objGet_objUpdate {j : Json} (h : j.isObject = true) (kvs : List (Bytes × Json))
    (hnd : (kvs.map (·.1)).Nodup) (k : Bytes) :
    (j.objUpdate (.obj kvs)).objGet k = ((Json.obj kvs).objGet k).or (j.objGet k) := by
  simp only [objUpdate]
  induction kvs generalizing j with
  | nil => rfl
  | cons e rest ih =>
    rw [List.map_cons, List.nodup_cons] at hnd
    rw [List.foldl_cons, ih ((isObject_objSet ..).trans h) hnd.2, objGet_objSet h, objGet_obj_cons]
    by_cases hk : e.1 = k
    · have : (Json.obj rest).objGet k = none := by
        rw [objGet, Option.map_eq_none_iff, List.find?_eq_none]
        exact fun p hp hpk => hnd.1 (hk ▸ of_decide_eq_true hpk ▸ List.mem_map.2 ⟨p, hp, rfl⟩)
      rw [if_pos hk, if_pos hk.symm, this]; rfl
    · rw [if_neg hk, if_neg (Ne.symm hk)]

end Jwt.Json
