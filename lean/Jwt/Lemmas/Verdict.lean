import Jwt.Policy
/-! What a C function that reports a refusal hands back, and the three things that follow for every translated function
shown equal to the `verdict` of its model. -/
namespace Jwt

/-- what a C function that reports a refusal hands back: 0, or 1 after `jwt_write_error` -/
def verdict (e : Option Err) : Nat × Bool := match e with | none => (0, false) | some _ => (1, true)

@[simp] theorem verdict_none : verdict none = (0, false) := rfl
@[simp] theorem verdict_some (e : Err) : verdict (some e) = (1, true) := rfl

theorem verdict_spec (e : Option Err) :
    (e = none ↔ (verdict e).1 = 0) ∧ ((verdict e).1 = 0 ∨ (verdict e).1 = 1) ∧ ((verdict e).2 = true ↔ (verdict e).1 = 1) := by
  cases e <;> simp

/-- the refusal of a model function that yields a value or an error -/
def refusal {α} (x : Except Err α) : Option Err := match x with | .ok _ => none | .error e => some e

@[simp] theorem refusal_ok {α} (a : α) : refusal (.ok a) = none := rfl
@[simp] theorem refusal_error {α} (e : Err) : refusal (.error e : Except Err α) = some e := rfl

theorem refusal_eq_none {α} (x : Except Err α) : refusal x = none ↔ ∃ a, x = .ok a := by
  cases x <;> simp

end Jwt
