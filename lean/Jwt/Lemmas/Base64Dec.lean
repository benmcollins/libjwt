import Jwt.Lemmas.TableFacts
/-! Decoder: the literal index loop over a bounds-checked buffer never leaves the buffer and
computes `decodeSpec`. -/
namespace Jwt.Base64
open Jwt Jwt.Generated

/-! ### one iteration: the tests on the character, the four arms on the buffer -/

/-- the loop body on a swapped character, its three tests read through `urlVal` -/
theorem decLoop_swap (c : UInt8) (cs : Bytes) (i j : Nat) (out : Bytes) :
    decLoop (swapDec c :: cs) i j out =
      if c = 61 then .ok j out else
      match urlVal c with
      | none => .reject
      | some v => match decStep i j out (UInt8.ofNat v) with
        | none => .oob
        | some (j', out') => decLoop cs (i + 1) j' out' := by
  obtain ⟨h1, h2, h3⟩ := decTests c
  rw [decLoop]; simp only [h1]; split; rfl
  cases hv : urlVal c with
  | none => rcases h2 hv with h | h <;> simp [h]
  | some v =>
    obtain ⟨ha, hb, hc, -⟩ := h3 v hv
    simp only [ha, hb, hc, Bool.false_eq_true, if_false]; rfl

theorem and3_eq_mod (i : Nat) : i &&& 0x3 = i % 4 := Nat.and_two_pow_sub_one_eq_mod i 2

theorem set_append_len (pre : Bytes) (y v : UInt8) (g : Bytes) :
    (pre ++ y :: g).set pre.length v = pre ++ v :: g := by
  simp

theorem get_append_len (pre : Bytes) (y : UInt8) (g : Bytes) : (pre ++ y :: g)[pre.length]? = some y := by
  simp

/-! With `j = |pre|` bytes done, each arm touches only the one or two cells behind `pre`. -/

theorem decStep0 (i : Nat) (h : i % 4 = 0) (pre : Bytes) (y : UInt8) (g : Bytes) (v : UInt8) :
    decStep i pre.length (pre ++ y :: g) v = some (pre.length, pre ++ ((v <<< 2) &&& 0xFF) :: g) := by
  simp [decStep, and3_eq_mod, h, bufSet]

theorem decStep1 (i : Nat) (h : i % 4 = 1) (pre : Bytes) (cur y : UInt8) (g : Bytes) (v : UInt8) :
    decStep i pre.length (pre ++ cur :: y :: g) v =
      some (pre.length + 1, pre ++ (cur ||| ((v >>> 4) &&& 0x3)) :: ((v &&& 0xF) <<< 4) :: g) := by
  simp [decStep, and3_eq_mod, h, bufSet]

theorem decStep2 (i : Nat) (h : i % 4 = 2) (pre : Bytes) (cur y : UInt8) (g : Bytes) (v : UInt8) :
    decStep i pre.length (pre ++ cur :: y :: g) v =
      some (pre.length + 1, pre ++ (cur ||| ((v >>> 2) &&& 0xF)) :: ((v &&& 0x3) <<< 6) :: g) := by
  simp [decStep, and3_eq_mod, h, bufSet]

theorem decStep3 (i : Nat) (h : i % 4 = 3) (pre : Bytes) (cur : UInt8) (g : Bytes) (v : UInt8) :
    decStep i pre.length (pre ++ cur :: g) v = some (pre.length + 1, pre ++ (cur ||| v) :: g) := by
  simp [decStep, and3_eq_mod, h, bufSet]

/-! ### the loop -/

/-- the bytes the loop completes on table values `vs`, from phase `p = i % 4` with partial byte `cur = out[j]` -/
def decVals : List Nat → Nat → UInt8 → Bytes
  | [], _, _ => []
  | v :: vs, p, cur =>
    match p with
    | 0 => decVals vs 1 ((UInt8.ofNat v <<< 2) &&& 0xFF)
    | 1 => (cur ||| ((UInt8.ofNat v >>> 4) &&& 0x3)) :: decVals vs 2 ((UInt8.ofNat v &&& 0xF) <<< 4)
    | 2 => (cur ||| ((UInt8.ofNat v >>> 2) &&& 0xF)) :: decVals vs 3 ((UInt8.ofNat v &&& 0x3) <<< 6)
    | _ => (cur ||| UInt8.ofNat v) :: decVals vs 0 0

/-- **Refinement with bounds.** Started in phase `p = i % 4` with the bytes `pre` done, the partial
byte (if any) at the head of the remaining buffer `g`, the input a multiple of 4 long in total, and
`g` one cell longer than the size macro promises, the literal loop never goes out of bounds, rejects
exactly when a character ahead of the first `=` is foreign, and otherwise appends exactly `decVals`
of the characters' values after `pre`, whatever garbage the buffer held, with a cell to spare. -/
theorem decLoop_vals (t : Bytes) : ∀ (i p m : Nat) (pre g : Bytes) (cur : UInt8),
    i % 4 = p → (p ≠ 0 → ∃ g', g = cur :: g') → t.length + p = 4 * m → 3 * m + 1 ≤ g.length + (p - 1) →
    match (t.takeWhile (· ≠ 61)).mapM urlVal with
    | none => decLoop (t.map swapDec) i pre.length (pre ++ g) = .reject
    | some vs => ∃ g2, decLoop (t.map swapDec) i pre.length (pre ++ g)
        = .ok (pre ++ decVals vs p cur).length (pre ++ decVals vs p cur ++ g2)
        ∧ (pre ++ decVals vs p cur ++ g2).length = (pre ++ g).length ∧ g2 ≠ [] := by
  induction t with
  | nil =>
    intro i p m pre g cur hp _ hlen hg
    have : g ≠ [] := by rintro rfl; simp at hlen hg; omega
    simpa [decVals, decLoop] using this
  | cons c t ih =>
    intro i p m pre g cur hp hcur hlen hg
    simp only [List.length_cons] at hlen
    rw [List.map_cons, decLoop_swap]
    by_cases h61 : c = 61
    · have : g ≠ [] := by rintro rfl; simp at hg; omega
      simpa [h61, decVals] using this
    rw [if_neg h61, List.takeWhile_cons_of_pos (by simpa using h61), List.mapM_cons]
    cases hv : urlVal c with
    | none => rfl
    | some v =>
      have hp4 : p < 4 := by omega
      match p, hp4 with
      | 0, _ =>
        obtain ⟨y, g', rfl⟩ := List.exists_cons_of_length_pos (l := g) (by omega)
        have := ih (i + 1) 1 m pre (_ :: g') ((UInt8.ofNat v <<< 2) &&& 0xFF) (by omega) (fun _ => ⟨_, rfl⟩)
          (by omega) (by simp at hg ⊢; omega)
        cases hm : List.mapM urlVal (t.takeWhile (· ≠ 61)) <;> simp only [hm] at this <;>
          simpa [decStep0 i hp, decVals, hm] using this
      | 1, _ =>
        obtain ⟨g', rfl⟩ := hcur (by decide)
        obtain ⟨y, g'', rfl⟩ := List.exists_cons_of_length_pos (l := g') (by simp at hg; omega)
        have := ih (i + 1) 2 m (pre ++ [cur ||| ((UInt8.ofNat v >>> 4) &&& 0x3)]) (_ :: g'')
          ((UInt8.ofNat v &&& 0xF) <<< 4) (by omega) (fun _ => ⟨_, rfl⟩) (by omega) (by simp at hg ⊢; omega)
        cases hm : List.mapM urlVal (t.takeWhile (· ≠ 61)) <;> simp only [hm] at this <;>
          simpa [decStep1 i hp, decVals, hm] using this
      | 2, _ =>
        obtain ⟨g', rfl⟩ := hcur (by decide)
        obtain ⟨y, g'', rfl⟩ := List.exists_cons_of_length_pos (l := g') (by simp at hg; omega)
        have := ih (i + 1) 3 m (pre ++ [cur ||| ((UInt8.ofNat v >>> 2) &&& 0xF)]) (_ :: g'')
          ((UInt8.ofNat v &&& 0x3) <<< 6) (by omega) (fun _ => ⟨_, rfl⟩) (by omega) (by simp at hg ⊢; omega)
        cases hm : List.mapM urlVal (t.takeWhile (· ≠ 61)) <;> simp only [hm] at this <;>
          simpa [decStep2 i hp, decVals, hm] using this
      | 3, _ =>
        obtain ⟨g', rfl⟩ := hcur (by decide)
        have := ih (i + 1) 0 (m - 1) (pre ++ [cur ||| UInt8.ofNat v]) g' 0 (by omega) (fun h => absurd rfl h)
          (by omega) (by simp at hg ⊢; omega)
        cases hm : List.mapM urlVal (t.takeWhile (· ≠ 61)) <;> simp only [hm] at this <;>
          simpa [decStep3 i hp, decVals, hm] using this

/-! ### from values to bytes: bit operations = arithmetic -/

/-- the parts the arms of `decStep` cut a table value into (64 values, kernel-evaluated) -/
theorem decBits : ∀ n, n < 64 →
    (UInt8.ofNat n <<< 2) &&& 0xFF = UInt8.ofNat (n * 4) ∧
    (UInt8.ofNat n >>> 4) &&& 0x3 = UInt8.ofNat (n / 16) ∧ (UInt8.ofNat n &&& 0xF) <<< 4 = UInt8.ofNat (n % 16 * 16) ∧
    (UInt8.ofNat n >>> 2) &&& 0xF = UInt8.ofNat (n / 4) ∧ (UInt8.ofNat n &&& 0x3) <<< 6 = UInt8.ofNat (n % 4 * 64) := by
  decide +kernel

theorem decVals_eq (vs : List Nat) (h : ∀ v ∈ vs, v < 64) (cur : UInt8) :
    decVals vs 0 cur = (unsextets vs).map UInt8.ofNat := by
  fun_induction unsextets vs generalizing cur
  · rename_i a b c d rest ih
    have ha := h a (by simp); have hb := h b (by simp); have hc := h c (by simp)
    obtain ⟨a0, -⟩ := decBits a ha
    obtain ⟨-, b1, b2, -⟩ := decBits b hb
    obtain ⟨-, -, -, c1, c2⟩ := decBits c hc
    simp only [decVals, List.map_cons, ih (fun v hv => h v (by simp [hv])) 0, a0, b1, b2, c1, c2]
    rw [ofNat_or_add 2 (by omega) a, ofNat_or_add 4 (by omega) (b % 16),
      ofNat_or_add 6 (h d (by simp)) (c % 4)]
  · rename_i a b c
    have ha := h a (by simp); have hb := h b (by simp); have hc := h c (by simp)
    obtain ⟨a0, -⟩ := decBits a ha
    obtain ⟨-, b1, b2, -⟩ := decBits b hb
    obtain ⟨-, -, -, c1, -⟩ := decBits c hc
    simp only [decVals, List.map_cons, List.map_nil, a0, b1, b2, c1]
    rw [ofNat_or_add 2 (by omega) a, ofNat_or_add 4 (by omega) (b % 16)]
  · rename_i a b
    have ha := h a (by simp); have hb := h b (by simp)
    obtain ⟨a0, -⟩ := decBits a ha
    obtain ⟨-, b1, -⟩ := decBits b hb
    simp only [decVals, List.map_cons, List.map_nil, a0, b1]
    rw [ofNat_or_add 2 (by omega) a]
  · rfl
  · rfl

/-! ### the `jwt_base64uri_decode` wrapper -/

/-- `mapM` into `Option` succeeds exactly when every element does -/
theorem mapM_eq_some {α β} {f : α → Option β} {l : List α} {l' : List β} :
    l.mapM f = some l' ↔ l.map f = l'.map some := by
  induction l generalizing l' with
  | nil => cases l' <;> simp
  | cons a l ih =>
    rw [List.mapM_cons]
    cases h : f a <;> cases hm : l.mapM f <;> cases l' <;> simp_all

theorem mapM_urlVal_lt {t : Bytes} {vs : List Nat} (h : t.mapM urlVal = some vs) : ∀ v ∈ vs, v < 64 := by
  intro v hv
  have : some v ∈ t.map urlVal := mapM_eq_some.1 h ▸ List.mem_map_of_mem hv
  obtain ⟨c, -, hc⟩ := List.mem_map.1 this
  exact ((decTests c).2.2 v hc).2.2.2

theorem takeWhile_append_replicate {α} (p : α → Bool) (l : List α) (n : Nat) {a : α} (h : p a = false) :
    (l ++ List.replicate n a).takeWhile p = l.takeWhile p := by
  induction l with
  | nil => simp [h]
  | cons x l ih => simp only [List.cons_append, List.takeWhile_cons, ih]

theorem padCount_none_iff (n : Nat) : padCount n = none ↔ n % 4 = 1 := by
  unfold padCount
  have : n % 4 < 4 := Nat.mod_lt _ (by decide)
  split <;> simp_all <;> omega

theorem padCount_some (n z : Nat) (h : padCount n = some z) : (n + z) % 4 = 0 ∧ n % 4 ≠ 1 := by
  unfold padCount at h
  split at h <;> cases h <;> omega

/-- **`jwt_base64uri_decode` on any allocation of the size the code uses**: never out of bounds,
result independent of the buffer's initial contents, equal to `decodeSpec`; and the index `ret_len`
at which `jwt_base64uri_decode_to_json` then writes its NUL is inside the buffer. -/
theorem uriDecodeBuf_spec (src buf : Bytes) (z : Nat) (hz : padCount src.length = some z)
    (hbuf : buf.length = decodeAlloc src.length z) :
    base64Decode (prepare src z) buf ≠ .oob ∧
    (uriDecodeBuf src buf).map (fun r => r.1.take r.2) = decodeSpec src ∧
    ∀ out j, uriDecodeBuf src buf = some (out, j) → j < out.length ∧ out.length = buf.length := by
  obtain ⟨hlen, hne1⟩ := padCount_some _ _ hz
  have hprep : prepare src z = (src ++ List.replicate z 61).map swapDec := by
    simp [prepare, show pad = swapDec 61 by decide]
  have hbase : base64Decode (prepare src z) buf = decLoop (prepare src z) 0 0 buf := by
    simp [base64Decode, and3_eq_mod, prepare, hlen]
  have href := decLoop_vals (src ++ List.replicate z 61) 0 0 ((src.length + z) / 4) [] buf 0 rfl
    (fun h => absurd rfl h) (by simp; omega) (by simp [hbuf, decodeAlloc, decodeOutSize]; omega)
  rw [takeWhile_append_replicate _ _ _ (by decide), ← hprep] at href
  simp only [List.nil_append, List.length_nil, ← hbase] at href
  unfold uriDecodeBuf decodeSpec
  simp only [hz, hne1, if_false]
  cases hm : (src.takeWhile (· ≠ 61)).mapM urlVal with
  | none => simp_all
  | some vs =>
    obtain ⟨g2, h1, h2, h3⟩ := hm ▸ href
    rw [decVals_eq vs (mapM_urlVal_lt hm)] at h1 h2
    simp only
    generalize (unsextets vs).map UInt8.ofNat = bs at h1 h2 ⊢
    rw [h1]
    refine ⟨by simp, by cases bs <;> simp, fun out j h => ?_⟩
    simp only at h
    split at h <;> cases h
    exact ⟨by simpa [List.length_pos_iff] using h3, h2⟩

end Jwt.Base64
