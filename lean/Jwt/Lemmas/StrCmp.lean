import Jwt.StrCmp
/-! `jwt_strcmp(a, b) == 0 ↔ a = b`, for all strings. -/
namespace Jwt

theorem nat_xor_eq_zero {a b : Nat} : a ^^^ b = 0 ↔ a = b :=
  ⟨fun h => calc
      a = a ^^^ (a ^^^ b) := by rw [h, Nat.xor_zero]
      _ = b := by rw [← Nat.xor_assoc, Nat.xor_self, Nat.zero_xor],
   fun h => h ▸ Nat.xor_self a⟩

theorem u8_xor_eq_zero {a b : UInt8} : a.toNat ^^^ b.toNat = 0 ↔ a = b :=
  nat_xor_eq_zero.trans UInt8.toNat_inj

/-- on strings of equal length the loop result is zero iff the accumulator was and the strings agree -/
theorem strcmpLoop_eq_zero (a b : Bytes) (acc : Nat) (h : a.length = b.length) :
    strcmpLoop a b acc = 0 ↔ acc = 0 ∧ a = b := by
  induction a generalizing b acc with
  | nil => cases b <;> simp_all [strcmpLoop]
  | cons x xs ih =>
    cases b with
    | nil => simp at h
    | cons y ys => simp [strcmpLoop, ih ys _ (Nat.succ.inj h), Nat.or_eq_zero_iff, u8_xor_eq_zero, and_assoc]

/-- **`jwt_strcmp` decides equality**: it returns 0 exactly on equal strings -/
theorem jwtStrcmp_eq_zero_iff (a b : Bytes) : jwtStrcmp a b = 0 ↔ a = b := by
  unfold jwtStrcmp
  rw [Nat.or_eq_zero_iff, nat_xor_eq_zero]
  constructor
  · rintro ⟨h1, h2⟩
    exact ((strcmpLoop_eq_zero a b 0 h2).1 h1).2
  · intro h
    subst h
    exact ⟨(strcmpLoop_eq_zero a a 0 rfl).2 ⟨rfl, rfl⟩, rfl⟩

end Jwt
