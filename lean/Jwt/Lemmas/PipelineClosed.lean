import Jwt.Generated.Pipeline
/-!
# Closed forms of the generated decision skeletons

What the code *generated from the source* computes, as a function of its tests alone. Two shapes occur. A function that
leaves at the first failing test is rewritten once as the flat chain of its exits (`…_eq`; the generator has expanded
every path, so the tail of the function recurs once per way of reaching it); "success only if every step succeeded" and
"no failure is silent" are then read off the chain, exit by exit. A function that sets one flag per test is a tree whose
leaves are tuples of flags: `ite_pair` moves each test into the components, where it survives only in the flag it sets.
-/
namespace Jwt.Generated.Pipeline

/-- a test that selects between two tuples selects in each component -/
theorem ite_pair {α β} (c : Prop) [Decidable c] (x x' : α) (y y' : β) :
    (if c then (x, y) else (x', y')) = (if c then x else x', if c then y else y') := by split <;> rfl

/-- `jwt_builder_generate` as a chain of exits. The three optional time claims, which the generator spells out as a tree
over "which are on" and "did the last set succeed", come to: the first enabled one that was not stored ends the call. -/
theorem builderGenerate_eq (a b c d iat is_ nbf ns exp es cbn cbr sk hs : Bool) (k : Nat) :
    builderGenerate a b c d iat is_ nbf ns exp es cbn cbr sk hs k =
      if a = true then (0, false, false)
      else if b = true then (0, false, false)
      else if c = true ∨ d = true then (0, true, false)
      else if iat = true ∧ is_ = false then (0, true, false)
      else if nbf = true ∧ ns = false then (0, true, false)
      else if exp = true ∧ es = false then (0, true, false)
      else if cbn = false ∧ cbr = true then (0, true, false)
      else if sk = true then (0, true, false)
      else if hs = true then (0, false, true)
      else (k, false, true) := by
  unfold builderGenerate
  -- the eight copies of what follows the time claims become one variable; the 64 cases are then small
  generalize (if cbn = false ∧ cbr = true then _ else _ : Nat × Bool × Bool) = tail
  cases iat <;> cases is_ <;> cases nbf <;> cases ns <;> cases exp <;> cases es <;> rfl

/-- `jwt_builder_generate` returns what `jwt_encode_str` returned exactly when nothing before it failed: both copies were
made, every enabled time claim was stored, an installed callback returned 0, the key/algorithm pair was admitted and the
header could be set up -- otherwise it returns NULL; and on every NULL exit except the two first (NULL builder, no memory
for the token object) either a message was written to the builder or the token object's error state was copied to it. -/
theorem builderGenerate_closed (a b c d iat is_ nbf ns exp es cbn cbr sk hs : Bool) (k : Nat) :
    let ok := !a && !b && !c && !d && (!iat || is_) && (!nbf || ns) && (!exp || es) && !(!cbn && cbr) && !sk && !hs
    (builderGenerate a b c d iat is_ nbf ns exp es cbn cbr sk hs k).1 = (if ok then k else 0) ∧
    ((!a && !b && !ok) = true →
      (builderGenerate a b c d iat is_ nbf ns exp es cbn cbr sk hs k).2.1 = true ∨ (builderGenerate a b c d iat is_ nbf ns exp es cbn cbr sk hs k).2.2 = true) := by
  simp only [builderGenerate_eq]
  cases a; case true => simp
  cases b; case true => simp
  cases c; case true => simp
  cases d; case true => simp
  by_cases h1 : iat = true ∧ is_ = false; · simp [*]
  by_cases h2 : nbf = true ∧ ns = false; · simp [*]
  by_cases h3 : exp = true ∧ es = false; · simp [*]
  by_cases h4 : cbn = false ∧ cbr = true; · simp [*]
  cases sk; case true => simp [*]
  cases hs <;> simp [*]

/-- `jwt_checker_verify` returns the checker's flag on its last exit only: token given, parsed, an installed callback
returned 0, the pair it left was admitted; every other exit returns 1, and every one of those (but the NULL checker) has
written a message to the checker, copied the token object's error state, or left the message to `__setkey_check`. -/
theorem checkerVerify_closed (a b c d e f g h i : Bool) (n : Nat) :
    let reach := !a && !b && !c && !d && !e && (f || (!g && h)) && !i
    (checkerVerify a b c d e f g h i n).1 = (if reach then n else 1) ∧
    ((!a && !reach) = true →
      (checkerVerify a b c d e f g h i n).2.1 = true ∨ (checkerVerify a b c d e f g h i n).2.2 = true ∨ (i = true)) := by
  unfold checkerVerify
  cases a; case true => simp
  cases b; case true => simp
  cases c; case true => simp
  cases d; case true => simp
  cases e; case true => simp
  cases f <;> cases g <;> cases h <;> cases i <;> simp

/-- `jwt_parse` returns 0 exactly when the copy was made, both dots were found and both parts parsed; a failure it detects
itself writes a message, a failure of a callee leaves the message to the callee -/
theorem parse_closed : ∀ a b c d e : Bool,
    (parse a b c d e).1 = (if !a && !b && !c && !d && !e then 0 else 1) ∧
    ((parse a b c d e).2 = (a || b || c)) := by
  decide +kernel

/-- `jwt_encode`: 0 exactly when every step succeeded (an unsigned token needs no signature), what a failing `jwt_sign`
returned (`r`) when that is what failed, else 1; every failure but `hdrDumpFails` writes a message -/
theorem encode_closed (a b c d e f g h i j : Bool) (r : Nat) :
    let pre := !a && !b && !c && !d && !e && !f
    (encode a b c d e f g h r i j).1 = (if pre && (g || (!h && !i && !j)) then 0 else if pre && !g && h then r else 1) ∧
    (encode a b c d e f g h r i j).2 = (!(pre && (g || (!h && !i && !j))) && !(!a && b)) := by
  unfold encode
  cases a; case true => simp
  cases b; case true => simp
  cases c; case true => simp
  cases d; case true => simp
  cases e; case true => simp
  cases f; case true => simp
  cases g; case true => simp
  cases h; case true => simp
  cases i; case true => simp
  cases j <;> simp

/-- `__verify_claims`: every bit of the mask depends on its own check only -/
theorem verifyClaims_eq (eo ek ex ep no nk nx nf i s a : Bool) :
    verifyClaims eo ek ex ep no nk nx nf i s a =
      (0, false, eo && ((ek && ep) || (!ek && ex)), no && ((nk && nf) || (!nk && nx)), i, s, a) := by
  unfold verifyClaims
  simp only [ite_pair, ite_self]
  cases ek <;> cases nk <;> simp

/-- `jwk_process_values` (the copy of the key id is allocated): an `alg` that is there and is not a string is reported
and ends the function; otherwise alg / use / key_ops / kid are stored each under its own condition -/
theorem processValues_eq (a b c d e f g h i j k : Bool) :
    processValues a b c d e f g h i j k false =
      (0, !a && !b, !a && b, !(!a && !b) && (!c && d && e), !(!a && !b) && (!c && d && !e && f),
        !(!a && !b) && (!g && h), !(!a && !b) && (!i && j && !k)) := by
  unfold processValues
  simp only [Bool.false_eq_true, if_false, ite_pair, ite_self]
  cases a <;> cases b <;> simp [Bool.and_assoc]

end Jwt.Generated.Pipeline
