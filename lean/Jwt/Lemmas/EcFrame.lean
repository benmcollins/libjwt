import Jwt.EcFrame
import Jwt.Lemmas.Cli
/-! Functional characterisation of the `r‖s` framing code, for all inputs. Both providers zero a buffer
of two `w`-wide fields and right-align one integer in each (`memcpyAt_two_fields`); they differ only in
what they do with an integer that is too long. -/
namespace Jwt.EcFrame
open Jwt.Cli Jwt.Generated

/-! ## `memcpyAt` -/

/-- a copy that ends where a zeroed field ends -/
theorem memcpyAt_zeros_end {w off : Nat} {src : Octets} (h : off + src.length = w) :
    memcpyAt (List.replicate w 0) off src = some (List.replicate off 0 ++ src) := by
  subst h
  simp [memcpyAt, List.take_replicate, List.drop_replicate]

/-- a copy that stays inside `X` does not see what follows `X` -/
theorem memcpyAt_append_left {X : Octets} (Y : Octets) {off : Nat} {src : Octets}
    (h : off + src.length ≤ X.length) :
    memcpyAt (X ++ Y) off src = (memcpyAt X off src).map (· ++ Y) := by
  simp [memcpyAt, h, Nat.le_trans h (Nat.le_add_right _ _),
    List.take_append_of_le_length (Nat.le_trans (Nat.le_add_right _ _) h), List.drop_append_of_le_length h]

/-- a copy past `X` does not see `X` -/
theorem memcpyAt_append_right (X Y : Octets) (off : Nat) (src : Octets) :
    memcpyAt (X ++ Y) (X.length + off) src = (memcpyAt Y off src).map (X ++ ·) := by
  simp only [memcpyAt, List.length_append, Nat.add_assoc, Nat.add_le_add_iff_left,
    List.take_length_add_append, List.drop_length_add_append]
  split <;> simp

/-- two right-aligned copies into a zeroed buffer of two `w`-wide fields -/
theorem memcpyAt_two_fields {w o₁ o₂ : Nat} {a b : Octets} (ha : o₁ + a.length = w) (hb : o₂ + b.length = w) :
    (memcpyAt (List.replicate (w + w) 0) o₁ a).bind (memcpyAt · (w + o₂) b) =
      some ((List.replicate o₁ 0 ++ a) ++ (List.replicate o₂ 0 ++ b)) := by
  have hl : (List.replicate o₁ 0 ++ a).length = w := by simpa using ha
  rw [← List.replicate_append_replicate, memcpyAt_append_left _ (by simp [ha]), memcpyAt_zeros_end ha,
    Option.map_some, Option.bind_some]
  rw [← hl, memcpyAt_append_right, hl, memcpyAt_zeros_end hb, Option.map_some]

/-! ## `fit` -/

/-- the last `w` octets of `d`, left-padded with zeros to `w` -/
def fit (w : Nat) (d : Octets) : Octets := List.replicate (w - d.length) 0 ++ d.drop (d.length - w)

/-- `fit w d` is what is left of `d` behind `w` zeros once `d.length` octets are dropped -/
theorem fit_eq_drop (w : Nat) (d : Octets) : fit w d = (List.replicate w 0 ++ d).drop d.length := by
  rw [List.drop_append, List.drop_replicate, List.length_replicate]; rfl

theorem fit_length (w : Nat) (d : Octets) : (fit w d).length = w := by
  rw [fit_eq_drop, List.length_drop, List.length_append, List.length_replicate, Nat.add_sub_cancel]

theorem fit_pad (w : Nat) (d : Octets) : (w - d.length) + (d.drop (d.length - w)).length = w := by
  simpa [fit] using fit_length w d

/-- leading zeros do not matter -/
theorem fit_zeros (w k : Nat) (d : Octets) : fit w (List.replicate k 0 ++ d) = fit w d := by
  rw [fit_eq_drop, fit_eq_drop, ← List.append_assoc, List.replicate_append_replicate, Nat.add_comm w k,
    ← List.replicate_append_replicate, List.append_assoc, List.length_append, List.length_replicate,
    ← List.drop_drop, List.drop_left' List.length_replicate]

theorem exportPad_eq_fit (w n : Nat) (h : (toBytesMin n).length ≤ w) : exportPad w n = fit w (toBytesMin n) := by
  rw [fit, Nat.sub_eq_zero_of_le h]; rfl

/-- `gnutls_decode_rs_value` hands over the minimal octets behind at most one zero -/
theorem derInt_eq (n : Nat) : ∃ k, derInt n = List.replicate k 0 ++ toBytesMin n := by
  unfold derInt
  split
  · next h => exact ⟨1, by rw [h]; rfl⟩
  · next b bs h =>
    rw [h]
    split
    · exact ⟨1, rfl⟩
    · exact ⟨0, rfl⟩

/-- the DER content octets of an integer below `256^w`, fitted to `w`, are its fixed-width form -/
theorem fit_derInt (w n : Nat) (h : n < 256 ^ w) : fit w (derInt n) = exportPad w n := by
  obtain ⟨k, hk⟩ := derInt_eq n
  rw [hk, fit_zeros, exportPad_eq_fit w n ((toBytesMin_length_le_iff n w).2 h)]

/-! ## the two sign paths -/

/-- **GnuTLS sign framing, every input.** Whatever two datums `gnutls_decode_rs_value` delivers, the
copy stays inside the `2·adj` buffer and the result is each datum's last `adj` octets, left-padded. -/
theorem gnutlsFrame_eq (adj : Nat) (rd sd : Octets) :
    gnutlsFrame adj rd sd = some (fit adj rd ++ fit adj sd) := by
  -- the C conditionals are truncated subtractions: `n - adj` octets are skipped, `adj - n` zeros lead
  have pad (n : Nat) : (if n > adj then n - adj else 0) = n - adj := by split <;> omega
  have outPad (n : Nat) : (if n > adj then 0 else if n < adj then adj - n else 0) = adj - n := by
    split
    · omega
    · split <;> omega
  have keep (n : Nat) : n - (n - adj) + (adj - n) = adj := by omega
  simp only [gnutlsFrame, pad, outPad, keep, Nat.mul_two]
  refine Option.map_bind.symm.trans ?_
  rw [memcpyAt_two_fields (fit_pad adj rd) (fit_pad adj sd), Option.map_some]
  exact congrArg some (List.take_of_length_le (l := fit adj rd ++ fit adj sd) (by simp [fit_length]))

theorem osslBufMul_eq : osslBufMul = 2 := rfl
theorem osslVerifyMul_eq : osslVerifyMul = 2 := rfl

/-- **OpenSSL sign framing, every input.** -/
theorem osslFrame_eq (bits r s : Nat) :
    osslFrame bits r s =
      if (toBytesMin r).length ≤ osslBnLenSign bits ∧ (toBytesMin s).length ≤ osslBnLenSign bits
      then some (exportPad (osslBnLenSign bits) r ++ exportPad (osslBnLenSign bits) s) else none := by
  unfold osslFrame
  generalize osslBnLenSign bits = bn
  by_cases hfit : (toBytesMin r).length ≤ bn ∧ (toBytesMin s).length ≤ bn
  · rw [if_neg (by omega), if_pos hfit]
    simp only [osslBufMul_eq, Nat.two_mul, Nat.add_sub_assoc hfit.2]
    exact memcpyAt_two_fields (Nat.sub_add_cancel hfit.1) (Nat.sub_add_cancel hfit.2)
  · rw [if_pos (by omega), if_neg hfit]

/-- reading back two fixed-width halves -/
theorem halves (w : Nat) (a b : Octets) (ha : a.length = w) (hb : b.length = w) :
    (a ++ b).take w = a ∧ ((a ++ b).drop w).take w = b :=
  ⟨List.take_left' ha, by rw [List.drop_left' ha, List.take_of_length_le (Nat.le_of_eq hb)]⟩

end Jwt.EcFrame
