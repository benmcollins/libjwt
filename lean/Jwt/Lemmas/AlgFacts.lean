import Jwt.Alg
import Jwt.Lemmas.StrCmp
/-! Facts about the *generated* algorithm tables (`Jwt/Generated/AlgTables.lean`): header `alg`
parsing is exact (case-sensitive, no prefix matching) and inverse to printing. -/
namespace Jwt
open Jwt.Generated

/-- the chain returns the entry of the first table string equal to the input -/
theorem strAlgChain_eq (tbl : List (Alg × Bytes)) (x : Bytes) :
    strAlgChain tbl x = ((tbl.find? (·.2 = x)).map (·.1)).getD .inval := by
  induction tbl with
  | nil => rfl
  | cons e rest ih =>
    obtain ⟨a, s⟩ := e
    simp only [strAlgChain, List.find?_cons, jwtStrcmp_eq_zero_iff]
    by_cases h : x = s
    · subst h; simp
    · have : ¬ s = x := fun h' => h h'.symm
      simp [h, this, ih]

/-- the parse table and the print table are the same table -/
theorem strAlgTable_eq_algStrTable : strAlgTable = algStrTable := rfl

/-- names are pairwise distinct, no name belongs to two algorithms, `inval` has no name -/
theorem algStrTable_names_nodup : (algStrTable.map (·.2)).Nodup := by decide +kernel
theorem algStrTable_algs_nodup : (algStrTable.map (·.1)).Nodup := by decide +kernel
theorem algStrTable_no_inval : ∀ e ∈ algStrTable, e.1 ≠ .inval := by decide +kernel

/-- a table without repeated keys is searched by key exactly for its rows -/
theorem find?_key_iff {α β : Type} [DecidableEq β] (f : α → β) {tbl : List α} (hn : (tbl.map f).Nodup) (e : α) (k : β) :
    tbl.find? (f · = k) = some e ↔ e ∈ tbl ∧ f e = k := by
  refine ⟨fun h => ⟨List.mem_of_find?_eq_some h, by simpa using List.find?_some h⟩, ?_⟩
  rintro ⟨hm, rfl⟩
  induction tbl with
  | nil => simp at hm
  | cons x rest ih =>
    simp only [List.map_cons, List.nodup_cons] at hn
    rcases List.mem_cons.1 hm with rfl | h
    · simp
    · have hne : f x ≠ f e := fun heq => hn.1 (heq ▸ List.mem_map.2 ⟨e, h, rfl⟩)
      simp [hne, ih hn.2 h]

/-- **Exactness.** A text parses to a real algorithm `a` only if it is byte-for-byte `a`'s name. -/
theorem strAlg_exact (x : Bytes) (a : Alg) (ha : a ≠ .inval) :
    strAlg (some x) = a ↔ algStr a = some x := by
  show strAlgChain strAlgTable x = a ↔ (algStrTable.find? (·.1 = a)).map (·.2) = some x
  rw [strAlgChain_eq, strAlgTable_eq_algStrTable]
  -- either side says that the table has the row `(a, x)`: no name and no algorithm occurs twice
  have hd : ∀ o : Option Alg, o.getD .inval = a ↔ o = some a := by
    intro o; cases o <;> simp [Ne.symm ha]
  simp only [hd, Option.map_eq_some_iff, find?_key_iff _ algStrTable_names_nodup, find?_key_iff _ algStrTable_algs_nodup]
  exact exists_congr fun e => by rw [and_assoc, and_assoc, and_comm (b := e.1 = a)]

theorem algStr_none : algStr .none = some N.none := rfl

/-- only real algorithms have a name -/
theorem algStr_ne_inval {a : Alg} {s : Bytes} (h : algStr a = some s) : a ≠ .inval := by
  obtain ⟨e, he, _⟩ := Option.map_eq_some_iff.1 h
  have : e.1 = a := by simpa using List.find?_some he
  exact this ▸ algStrTable_no_inval e (List.mem_of_find?_eq_some he)

/-- `strAlg s = none` exactly for the four bytes `none` -/
theorem strAlg_none_iff (x : Bytes) : strAlg (some x) = .none ↔ x = N.none := by
  rw [strAlg_exact x .none (by decide), algStr_none, Option.some.injEq, eq_comm]

/-- every algorithm but `inval` has a name … -/
theorem algStr_isSome : ∀ a ∈ Alg.all, a ≠ .inval → (algStr a).isSome = true := by decide +kernel

theorem Alg.mem_all (a : Alg) : a ∈ Alg.all :=
  List.mem_of_getElem? (i := a.ctorIdx) (by cases a <;> rfl)

/-- … and parsing that name gives the algorithm back -/
theorem strAlg_algStr (a : Alg) (ha : a ≠ .inval) : ∃ s, algStr a = some s ∧ strAlg (some s) = a := by
  have h := algStr_isSome a (Alg.mem_all a) ha
  cases hs : algStr a with
  | none => simp [hs] at h
  | some s => exact ⟨s, rfl, (strAlg_exact s a ha).2 hs⟩

end Jwt
