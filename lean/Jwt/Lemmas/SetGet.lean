import Jwt.SetGet
import Jwt.Lemmas.Json
/-! `checkedSet` and `setter` (jwt-setget.c) said once: what a request stores, when it is refused, and that
the target stays an object. Header and claims are read as maps through `abs`. -/
namespace Jwt.Props.C15
open Jwt

/-- the abstract state: a map from names to JSON values -/
def abs (j : Json) : Bytes → Option Json := j.objGet

def IsObj (j : Json) : Prop := ∃ kvs, j = .obj kvs

theorem isObj_isObject {j : Json} (h : IsObj j) : j.isObject = true := Json.isObject_iff.2 h

/-- what a request stores: the typed value, when one can be built from it -/
def reqValue (ls : Bytes → Option Json) (r : SetReq) : Option Json :=
  match r.type with
  | .int => some (.int r.intVal)
  | .bool => some (.bool (r.boolVal ≠ 0))
  | .str => r.strVal.bind fun s => if validUtf8 s then some (.str s) else none
  | .json => r.jsonVal.bind ls

theorem nameOk_some {n : Bytes} (hn : n ≠ []) : nameOk (some n) = some n := by
  cases n with | nil => exact absurd rfl hn | cons _ _ => rfl

theorem checkedSet_isObject (w : Json) (n : Bytes) (v : Option Json) (rp : Bool) :
    (checkedSet w n v rp).1.isObject = w.isObject := by
  cases v <;> simp [checkedSet, apply_ite Prod.fst, apply_ite Json.isObject]

/-- storing a value under a good name in an object: EXIST, or the plain map update (the delete that
precedes a replacing store is absorbed by `objSet`) -/
theorem checkedSet_some {w : Json} (hw : w.isObject = true) {n : Bytes} (hu : validUtf8 n = true) (v : Json) (rp : Bool) :
    checkedSet w n (some v) rp = if (w.objGet n).isSome && !rp then (w, .exist) else (w.objSet n v, .none) := by
  unfold checkedSet
  cases (w.objGet n).isSome <;> cases rp <;> simp [hw, hu, Json.objSet_objDel]

theorem checkedSet_exist {w : Json} {n : Bytes} (hex : (w.objGet n).isSome = true) (v : Option Json) :
    checkedSet w n v false = (w, .exist) := by
  simp [checkedSet, hex]

/-- a named request is `checkedSet` of its value, unless it is refused before that: a string request
without a string, JSON text that does not load -/
theorem setter_named (ls : Bytes → Option Json) (w : Json) {r : SetReq} {n : Bytes} (hn : nameOk r.name = some n)
    (hs : r.type = .str → r.strVal.isSome = true) (hj : r.type = .json → (r.jsonVal.bind ls).isSome = true) :
    setter ls w r = checkedSet w n (reqValue ls r) r.replace := by
  unfold setter reqValue
  cases ht : r.type <;> simp only [hn]
  · obtain ⟨s, hs⟩ := Option.isSome_iff_exists.1 (hs ht); simp only [hs, Option.bind_some]
  · obtain ⟨d, hd⟩ := Option.isSome_iff_exists.1 (hj ht); simp only [hd]

theorem setter_named_some (ls : Bytes → Option Json) (w : Json) {r : SetReq} {n : Bytes} {v : Json}
    (hn : nameOk r.name = some n) (hv : reqValue ls r = some v) : setter ls w r = checkedSet w n (some v) r.replace := by
  rw [← hv]
  apply setter_named ls w hn <;> intro ht <;> simp only [reqValue, ht] at hv
  · cases h : r.strVal <;> simp [h] at hv ⊢
  · simp [hv]

/-- a named request with a value, on an object, under a valid name: EXIST, or the plain map update -/
theorem setter_store (ls : Bytes → Option Json) {w : Json} (hw : w.isObject = true) {r : SetReq} {n : Bytes} {v : Json}
    (hn : nameOk r.name = some n) (hu : validUtf8 n = true) (hv : reqValue ls r = some v) :
    setter ls w r = if (w.objGet n).isSome && !r.replace then (w, .exist) else (w.objSet n v, .none) := by
  rw [setter_named_some ls w hn hv, checkedSet_some hw hu]

/-- a whole-object request on an object with an object document is `json_object_update(_missing)` -/
theorem setter_whole (ls : Bytes → Option Json) {w : Json} (hw : w.isObject = true) {r : SetReq} {kvs : List (Bytes × Json)}
    (ht : r.type = .json) (hn : nameOk r.name = none) (hd : r.jsonVal.bind ls = some (.obj kvs)) :
    setter ls w r = (if r.replace then w.objUpdate (.obj kvs) else w.objUpdateMissing (.obj kvs), .none) := by
  have : (Json.obj kvs).isObject = true := rfl
  unfold setter
  simp [ht, hd, hn, hw, this]

/-- no request changes whether the target is an object -/
theorem setter_isObject (ls : Bytes → Option Json) (w : Json) (r : SetReq) : (setter ls w r).1.isObject = w.isObject := by
  unfold setter
  repeat' split
  all_goals simp [checkedSet_isObject]

end Jwt.Props.C15
